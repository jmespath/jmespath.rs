import JmesVerif.Model.Cli
import JmesVerif.Generated.CliArgs
/-!
# C18 — the jp command-line tool reports exactly what the library computes

Model: `Model/Cli.lean` — `jp`'s decision logic over abstract read outcomes, with the library's
own `compile`, `Variable::from_json`, `search` and serde_json's pretty printer plugged in.
**Partial by nature**: process exit, pipes, the file system and clap's argument grammar are
observed by the `cli` stream (the real binary built from `jmespath-cli/src/main.rs`), not modelled.
-/
namespace JmesVerif
open Cli

/-- the successful path: an expression text is selected and compiles, the input is readable and
valid JSON, and the search returns `v` -/
def Succeeds (fuel : Nat) (a : Args) (stdin : ReadRes) (v : Val) : Prop :=
  ∃ t e tree jt doc, selectExpr a = some t ∧ parseExpr t = .ok (e, tree) ∧ inputOf a stdin = .ok jt ∧
    JsonText.parse jt = some doc ∧ search Registry.default fuel tree doc = .ok v

/-- **exit 0 with the pretty-printed result and a newline when compilation, JSON parsing and search
all succeed** (without `--ast`) -/
theorem C18_success (fuel : Nat) (a : Args) (stdin : ReadRes) (hast : a.ast = false) (v : Val)
    (h : Succeeds fuel a stdin v) :
    run fuel a stdin = ⟨0, showResult v a.unquoted, false, true⟩ := by
  obtain ⟨t, e, tree, jt, doc, hsel, hp, hin, hj, hs⟩ := h
  simp [run, hsel, hp, hast, evalStage, hin, hj, hs]

theorem evalStage_shape (fuel : Nat) (tree : Ast) (a : Args) (stdin : ReadRes) :
    (evalStage fuel tree a stdin = dieAfterInput) ∨
    (∃ jt doc v, inputOf a stdin = .ok jt ∧ JsonText.parse jt = some doc ∧
      search Registry.default fuel tree doc = .ok v ∧
      evalStage fuel tree a stdin = ⟨0, showResult v a.unquoted, false, true⟩) := by
  unfold evalStage
  cases hin : inputOf a stdin with
  | fail => exact Or.inl (by simp)
  | ok jt =>
    cases hj : JsonText.parse jt with
    | none => exact Or.inl (by simp [hj])
    | some doc =>
      cases hs : search Registry.default fuel tree doc with
      | error e => exact Or.inl (by simp [hj, hs])
      | ok v => exact Or.inr ⟨jt, doc, v, rfl, hj, hs, by simp [hj, hs]⟩

/-- **any failure prints nothing to stdout, something to stderr, and exits non-zero** -/
theorem C18_failure_shape (fuel : Nat) (a : Args) (stdin : ReadRes) :
    (run fuel a stdin).exit = 0 ∨
    ((run fuel a stdin).exit ≠ 0 ∧ (run fuel a stdin).stdout = "" ∧ (run fuel a stdin).stderrNonEmpty = true) := by
  unfold run
  cases hsel : selectExpr a with
  | none => exact Or.inr (by simp [die])
  | some t =>
    simp only []
    cases hp : parseExpr t with
    | error e => simp only []; exact Or.inr (by simp [die])
    | ok p =>
      obtain ⟨e, tree⟩ := p
      simp only []
      by_cases hast : a.ast = true
      · simp [hast]
      · simp only [hast, Bool.false_eq_true, if_false]
        rcases evalStage_shape fuel tree a stdin with h | ⟨_, _, _, _, _, _, h⟩
        · rw [h]; exact Or.inr (by simp [dieAfterInput])
        · rw [h]; exact Or.inl rfl

/-- exit 0 happens only on the successful path, and then stdout is exactly the rendered result -/
theorem C18_exit0_only_if (fuel : Nat) (a : Args) (stdin : ReadRes) (h0 : (run fuel a stdin).exit = 0)
    (hast : a.ast = false) : ∃ v, Succeeds fuel a stdin v ∧ (run fuel a stdin).stdout = showResult v a.unquoted := by
  unfold run at h0 ⊢
  cases hsel : selectExpr a with
  | none => simp [hsel, die] at h0
  | some t =>
    simp only [hsel] at h0 ⊢
    cases hp : parseExpr t with
    | error e => simp [hp, die] at h0
    | ok p =>
      obtain ⟨e, tree⟩ := p
      simp only [hp, hast, Bool.false_eq_true, if_false] at h0 ⊢
      rcases evalStage_shape fuel tree a stdin with h | ⟨jt, doc, v, hin, hj, hs, h⟩
      · rw [h] at h0; simp [dieAfterInput] at h0
      · rw [h]
        exact ⟨v, ⟨t, e, tree, jt, doc, hsel, hp, hin, hj, hs⟩, rfl⟩

/-- **`--unquoted` prints a string result without quotes and leaves every other result unaffected** -/
theorem C18_unquoted (v : Val) :
    (∀ s, v = .str s → showResult v true = s ++ "\n") ∧
    ((∀ s, v ≠ .str s) → showResult v true = showResult v false) := by
  constructor
  · intro s h; subst h; rfl
  · intro h; cases v <;> simp_all [showResult]

/-- **`--ast` prints the parse tree without reading input**: the outcome does not depend on stdin
and the run never consumes the input -/
theorem C18_ast_reads_no_input (fuel : Nat) (a : Args) (stdin stdin' : ReadRes) (hast : a.ast = true) :
    (run fuel a stdin).readInput = false ∧ run fuel a stdin' = run fuel a stdin := by
  unfold run
  cases hsel : selectExpr a with
  | none => simp [die]
  | some t =>
    simp only []
    cases hp : parseExpr t with
    | error e => simp [die]
    | ok p => obtain ⟨e, tree⟩ := p; simp [hast]


/-! ### the command-line surface, re-extracted from `jmespath-cli/src/main.rs` on every run

The clap argument table, the exit codes of `die!` and of the `--ast` branch and the order of the stages of
`main` are the ones the model (`Model/Cli.lean`: `Args`, `die`, `run`) assumes: `-f`, `--filename` and
`-e`, `--expr-file` take a value, `-u`, `--unquoted` and `--ast` are flags, exactly one of EXPRESSION (first positional) and
`--expr-file` is required and they exclude each other; `die!` writes to stderr and exits with the model's failure
code; the `--ast` test comes after compiling and before anything reads the input. -/
theorem C18_cli_surface :
    Generated.cliArgs =
      [⟨"filename", some "f", some "filename", true, false, false, none, []⟩,
       ⟨"unquoted", some "u", some "unquoted", false, false, false, none, []⟩,
       ⟨"ast", none, some "ast", false, false, false, none, []⟩,
       ⟨"expr-file", some "e", some "expr-file", true, false, true, none, ["expression"]⟩,
       ⟨"expression", none, none, false, false, true, some 1, ["expr-file"]⟩]
    ∧ Generated.dieExit = Cli.die.exit ∧ Generated.dieExit = Cli.dieAfterInput.exit ∧ Generated.dieExit ≠ 0
    ∧ Generated.dieWritesStderr = Cli.die.stderrNonEmpty
    ∧ Generated.astExit = 0
    ∧ Generated.mainOrder = ["compile", "ast", "input", "search", "show"]
    ∧ Generated.readsBeforeInput = [] := by
  exact ⟨rfl, rfl, rfl, by decide, rfl, rfl, rfl, rfl⟩

end JmesVerif

#print axioms JmesVerif.C18_success
#print axioms JmesVerif.C18_failure_shape
#print axioms JmesVerif.C18_exit0_only_if
#print axioms JmesVerif.C18_unquoted
#print axioms JmesVerif.C18_ast_reads_no_input
#print axioms JmesVerif.C18_cli_surface
