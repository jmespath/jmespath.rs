import JmesVerif.Lemmas.SemFullConform
import JmesVerif.Lemmas.SemFullExt
import JmesVerif.Props.C01
import JmesVerif.Lemmas.InterpEquiv
/-!
# C01, full language — search results conform to the JMESPath specification, functions included

`SemFull.expr` (`Spec/SemFull.lean`) extends the semantics of the core forms (`Spec/Sem.lean`) to
function calls with the 26 builtin functions and to expression references `&e` passed to `map`,
`sort_by`, `max_by`, `min_by` — an `&e` argument denotes the function `x ↦ ⟦e⟧ x`, never a value.

`C01_search_full`: for **every** string that compiles to a covered expression (`SemFull.exprOk`)
and **every** JSON document, `search` with the default runtime returns exactly the value the
semantics assigns, or a `JmespathError` exactly when the semantics says the expression is an error
(invalid slice, unknown function, wrong arity, wrong argument type, wrong expref return type,
non-finite arithmetic result); it never panics and never returns another value — for any nesting
of calls, projections, filters, … once given fuel for the finite recursion.

Side conditions.
* `SemFull.exprOk e` — the analogue of `Sem.exprCore`: literals are JSON; `&e` occurs only as a
  *direct* argument in an expref-typed parameter position (1st of `map`, 2nd of `sort_by`/`max_by`/
  `min_by`); no `callDev` (deviation F3).  It implies `Ast.Disciplined e.ast` (`SemFull_covered_disciplined`)
  and holds for every core expression (`exprOk_of_core`).
* the width bound `e.wbF d.width ≤ 2^31 − 1` (`Lemmas/SemFullWidth.lean`): `wbF` is `wb` on core
  forms (`Expr.wbF_core`) and bounds function results too (a call over argument values / `&e`
  results within `B` yields a value within `max 1 B`, except `merge` of `k` objects: `max 1 (k·B)`).
  The exact hypothesis is `SafeF.expr d e` (`C01_conformance_full_safe`): every array a slice is
  applied to during evaluation — inside function arguments and inside the functions applied by
  `map`/`sort_by`/`max_by`/`min_by` too — has at most `i32::MAX` elements.
* errors are not distinguished by kind: `none` in `SemFull` ↔ any `JmespathError` of the code.
-/
namespace JmesVerif

/-- `resultOfF` (`Lemmas/SemFullConform.lean`) on the outcome of `search` -/
def searchResultOfF (r : Except EvalErr Val) : Option (Option Val) :=
  match r with
  | .ok v => some (some v)
  | .error e => if e.genuine then some none else none

theorem searchResultOfF_search (rt : Registry) (fuel : Nat) (a : Ast) (d : Val) :
    searchResultOfF (search rt fuel a d) = resultOfF (interp rt fuel d a 0) := by
  unfold search
  cases h : interp rt fuel d a 0 with
  | error e => rfl
  | ok p => obtain ⟨v, o⟩ := p; rfl

/-- **Conformance of the interpreter to the full semantics.** -/
theorem C01_conformance_full' (e : Expr) (hc : SemFull.exprOk e = true) (a : Ast)
    (ha : a.strip = e.ast) (d : Val) (hd : d.isJson = true)
    (hb : e.wbF d.width ≤ 2147483647) (off : Nat) :
    ∃ n, ∀ fuel, n ≤ fuel →
      resultOfF (interp Registry.default fuel d a off) = some (SemFull.expr d e) :=
  C01_conformance_full e hc a ha d hd hb off

/-- **Search conforms to the specification, functions included.**  Whatever string compiles to a
covered expression `e`, searching any JSON document with it (default runtime) yields
`SemFull.expr d e`. -/
theorem C01_search_full (cs : List Char) (e : Expr) (a : Ast) (h : parseExpr cs = .ok (e, a))
    (hc : SemFull.exprOk e = true) (d : Val) (hd : d.isJson = true)
    (hb : e.wbF d.width ≤ 2147483647) :
    ∃ n, ∀ fuel, n ≤ fuel →
      searchResultOfF (search Registry.default fuel a d) = some (SemFull.expr d e) := by
  obtain ⟨_, _, _, _, _, ha⟩ := parseExpr_ok h
  obtain ⟨n, hn⟩ := C01_conformance_full e hc a ha d hd hb 0
  exact ⟨n, fun fuel hf => by rw [searchResultOfF_search]; exact hn fuel hf⟩

/-- the same under the exact side condition -/
theorem C01_search_full_safe (cs : List Char) (e : Expr) (a : Ast) (h : parseExpr cs = .ok (e, a))
    (hc : SemFull.exprOk e = true) (d : Val) (hd : d.isJson = true) (hs : SafeF.expr d e) :
    ∃ n, ∀ fuel, n ≤ fuel →
      searchResultOfF (search Registry.default fuel a d) = some (SemFull.expr d e) := by
  obtain ⟨_, _, _, _, _, ha⟩ := parseExpr_ok h
  obtain ⟨n, hn⟩ := C01_conformance_full_safe e hc a ha d hd hs 0
  exact ⟨n, fun fuel hf => by rw [searchResultOfF_search]; exact hn fuel hf⟩

/-- **`SemFull` extends `Sem`**: on core expressions the two semantics coincide (and core
expressions are covered, with the same width bound) -/
theorem SemFull_extends_Sem (e : Expr) (h : Sem.exprCore e = true) (d : Val) :
    SemFull.expr d e = Sem.expr d e :=
  SemFull_eq_Sem e h d

theorem SemFull_covers_core (e : Expr) (h : Sem.exprCore e = true) :
    SemFull.exprOk e = true ∧ ∀ b, e.wbF b = e.wb b :=
  ⟨exprOk_of_core e h, Expr.wbF_core e h⟩

/-- covered expressions are disciplined (the hypothesis of `C05_search_terminates`) -/
theorem SemFull_covered_disciplined (e : Expr) (h : SemFull.exprOk e = true) :
    e.ast.Disciplined = true :=
  expr_disc e h

/-- the specification's name table and expref positions are those of the code's registry and
signatures -/
theorem SemFull_names_are_the_registry (name : String) :
    Registry.default.get name = (SemFull.builtinOf name).map Fn.builtin :=
  default_get name
theorem SemFull_expref_positions (name : String) (b : Builtin) (h : SemFull.builtinOf name = some b)
    (i : Nat) : SemFull.exprefParam name i = true ↔ ∃ t, b.sig.inputs[i]? = some t ∧ t.isValid (.expref (.identity 0)) = true ∧ t.isValid .null = false := by
  rw [exprefParam_slot name b h i]
  cases hu : b.usesExpref
  · -- a parameter of the other builtins that takes an expression reference has type `any`
    have hin : ∀ t ∈ b.sig.inputs, t.isValid (.expref (.identity 0)) = true → t.isValid .null = true := by
      cases b <;> simp [Builtin.usesExpref] at hu <;>
        simp [Builtin.sig, arrNum, arrStr, ArgT.isValid, anyValid, Val.type, Val.isNull]
    rw [slot_of_not_usesExpref b hu i]
    refine ⟨nofun, fun ⟨t, ht, he, hn⟩ => ?_⟩
    rw [hin t (List.mem_of_getElem? ht) he] at hn
    cases hn
  · cases b <;> simp [Builtin.usesExpref] at hu <;> rcases i with _ | _ | i <;>
      simp [Builtin.slot, Builtin.sig, ArgT.isValid, Val.type]

/-! ### non-vacuity -/

/-- `map(&length(@), @)` on `["ab", [null]]` is `[2, 1]` -/
example : SemFull.expr (.arr [.str "ab", .arr [.null]])
    (.mk (.call "map" [.mk (.expref (.mk (.call "length" [.mk .at []]) [])) [], .mk .at []]) []) =
    some (.arr [.num (.pos 2), .num (.pos 1)]) := by
  simp [SemFull.expr, SemFull.nud, SemFull.leds, SemFull.args, SemFull.call, SemFull.builtinOf, SemFull.names,
    List.lookup, SemFull.apply, SemFull.mapShape, Sem.optMapM, SemFull.allVals, SemFull.pureFn,
    Builtin.sig, Sig.validate, Sig.validateArity, Sig.validateArgs, ArgT.isValid, anyValid, Val.type, Builtin.pure]

/-- `sort_by(@, &a)[*].a` on `[{"a":"b"},{"a":"a"}]` is `["a","b"]` -/
example : SemFull.expr (.arr [.obj [("a", .str "b")], .obj [("a", .str "a")]])
    (.mk (.call "sort_by" [.mk .at [], .mk (.expref (.mk (.field "a") [])) []])
      [.wildIdxL (.dot (.expr (.mk (.field "a") [])))]) =
    some (.arr [.str "a", .str "b"]) := by
  have hcmp : (Val.str "b").cmp (Val.str "a") = Ordering.gt := by decide
  simp [hcmp, SemFull.expr, SemFull.nud, SemFull.leds, SemFull.led, SemFull.rhs, SemFull.dot, SemFull.args, SemFull.call,
    SemFull.builtinOf, SemFull.names, List.lookup, SemFull.apply, SemFull.byShape, SemFull.sortBy, Sem.optMapM,
    Sem.field, Val.lookup, SemFull.keysOk, Val.type, SemFull.sortByKey, List.mergeSort,
    List.MergeSort.Internal.splitInTwo, Sem.dropNulls, Val.isNull]

/-- both are covered, and so is a nested use: `max_by(map(&[@, length(@)], @), &[1])[0]` -/
example : SemFull.exprOk
    (.mk (.call "map" [.mk (.expref (.mk (.call "length" [.mk .at []]) [])) [], .mk .at []]) []) = true := by
  decide
example : SemFull.exprOk
    (.mk (.call "sort_by" [.mk .at [], .mk (.expref (.mk (.field "a") [])) []])
      [.wildIdxL (.dot (.expr (.mk (.field "a") [])))]) = true := by
  decide

/-- an unknown function, a wrong arity, a wrong argument type, a wrong key type are errors -/
example (d : Val) : SemFull.expr d (.mk (.call "foo" [.mk .at []]) []) = none := by
  simp [SemFull.expr, SemFull.nud, SemFull.leds, SemFull.args, SemFull.call, SemFull.builtinOf, SemFull.names,
    List.lookup]
example : SemFull.expr (.arr [.bool true])
    (.mk (.call "sort_by" [.mk .at [], .mk (.expref (.mk .at [])) []]) []) = none := by
  simp [SemFull.expr, SemFull.nud, SemFull.leds, SemFull.args, SemFull.call, SemFull.builtinOf, SemFull.names,
    List.lookup, SemFull.apply, SemFull.byShape, SemFull.sortBy, Sem.optMapM, SemFull.keysOk, Val.type]

/-- the theorem applies to `map(&length(@), @)` on `["ab", [null]]` whatever offsets the tree carries -/
example (a : Ast) (ha : a.strip =
      (Expr.mk (.call "map" [.mk (.expref (.mk (.call "length" [.mk .at []]) [])) [], .mk .at []]) []).ast)
    (off : Nat) : ∃ n, ∀ fuel, n ≤ fuel →
      resultOfF (interp Registry.default fuel (.arr [.str "ab", .arr [.null]]) a off) =
        some (SemFull.expr (.arr [.str "ab", .arr [.null]])
          (.mk (.call "map" [.mk (.expref (.mk (.call "length" [.mk .at []]) [])) [], .mk .at []]) [])) :=
  C01_conformance_full _ (by decide) a ha _ (by decide) (by decide) off

/-- … and in the error direction: `sort_by(@, &@)` on `[true]` is a `JmespathError` of the code
(the key is neither a number nor a string), for every tree with that shape and every offset -/
example (a : Ast) (ha : a.strip =
      (Expr.mk (.call "sort_by" [.mk .at [], .mk (.expref (.mk .at [])) []]) []).ast) (off : Nat) :
    ∃ n, ∀ fuel, n ≤ fuel →
      ∃ e, interp Registry.default fuel (.arr [.bool true]) a off = .error e ∧ e.genuine = true := by
  obtain ⟨n, hn⟩ := C01_conformance_full
    (.mk (.call "sort_by" [.mk .at [], .mk (.expref (.mk .at [])) []]) []) (by decide) a ha
    (.arr [.bool true]) (by decide) (by decide) off
  have hsem : SemFull.expr (.arr [.bool true])
      (.mk (.call "sort_by" [.mk .at [], .mk (.expref (.mk .at [])) []]) []) = none := by
    simp [SemFull.expr, SemFull.nud, SemFull.leds, SemFull.args, SemFull.call, SemFull.builtinOf, SemFull.names,
      List.lookup, SemFull.apply, SemFull.byShape, SemFull.sortBy, Sem.optMapM, SemFull.keysOk, Val.type]
  refine ⟨n, fun fuel hf => ?_⟩
  have h := hn fuel hf
  rw [hsem] at h
  cases hr : interp Registry.default fuel (.arr [.bool true]) a off with
  | ok p => rw [hr] at h; obtain ⟨v, o⟩ := p; simp [resultOfF] at h
  | error e =>
    rw [hr] at h
    refine ⟨e, rfl, ?_⟩
    cases hg : e.genuine with
    | true => rfl
    | false => simp [resultOfF, hg] at h

/-- the model `interp` these theorems are about equals the evaluator as re-translated from interpreter.rs on every run
(`Generated/InterpCode.lean`, all 18 arms; see `Props/C11.lean` for the discussion of the side conditions) -/
theorem C01_translated_interpreter (rt : Registry) (fuel : Nat) (d : Val) (a : Ast) (off : Nat) (h : a.I32Ok = true) :
    Generated.InterpCode.interpret sliceGuarded rt.get (callFn rt) fuel d a off = interp rt fuel d a off :=
  gen_interpret_eq_guarded rt fuel d a off h

end JmesVerif

#print axioms JmesVerif.C01_conformance_full
#print axioms JmesVerif.C01_conformance_full_safe
#print axioms JmesVerif.C01_conformance_full_rt
#print axioms JmesVerif.C01_search_full
#print axioms JmesVerif.C01_search_full_safe
#print axioms JmesVerif.SemFull_extends_Sem
#print axioms JmesVerif.SemFull_covers_core
#print axioms JmesVerif.SemFull_covered_disciplined
#print axioms JmesVerif.SemFull_expref_positions

-- the theorems of Props/C01.lean (this module is the one the C01 check audits)
#print axioms JmesVerif.C01_conformance
#print axioms JmesVerif.C01_conformance_safe
#print axioms JmesVerif.C01_search
#print axioms JmesVerif.C01_unconditional_false
#print axioms JmesVerif.C01_translated_truthy_type
#print axioms JmesVerif.C01_translated_interpreter
