import JmesVerif.Lemmas.Signature
import JmesVerif.Generated.Signatures
import JmesVerif.Generated.Vocab
import JmesVerif.Lemmas.CodeEquiv
import JmesVerif.Lemmas.ValidEquiv
/-!
# C06 — built-in functions enforce their signatures: arity and argument types

* the 26 signatures and the name→function registrations are re-extracted from `functions.rs` /
  `runtime.rs` on every run (`Generated/Signatures.lean`) and proved equal to the documented ones
  the model uses (`C06_signature_table`, `C06_registration_table`);
* the validator, for *every* signature: wrong arity ⇒ the arity error; right arity and a bad
  argument ⇒ the invalid-type error of the first offending position naming declared and actual
  type; success iff every argument satisfies its parameter type (`C06_validate_*`);
* validity of an argument depends only on its type class (type tag, and for arrays the element
  type tags), which lifts the finite class-level decision table the check enumerates to all values
  (`C06_class_level`);
* a successful call returns a value of the function's declared result type (`C06_result_type`); on
  arguments that satisfy the signature a builtin without expression reference never reaches an
  `unreachable!()`, and fails only with the non-finite-number error (`C06_no_unreachable`);
* an unregistered name is the unknown-function error: `C12_unknown_function_offset` (`Props/C12.lean`).
-/
namespace JmesVerif

/-- struct name of each builtin in functions.rs -/
def Builtin.structName : Builtin → String
  | .abs => "AbsFn" | .avg => "AvgFn" | .ceil => "CeilFn" | .contains => "ContainsFn"
  | .endsWith => "EndsWithFn" | .floor => "FloorFn" | .join => "JoinFn" | .keys => "KeysFn"
  | .length => "LengthFn" | .map => "MapFn" | .min => "MinFn" | .max => "MaxFn"
  | .maxBy => "MaxByFn" | .minBy => "MinByFn" | .merge => "MergeFn" | .notNull => "NotNullFn"
  | .reverse => "ReverseFn" | .sort => "SortFn" | .sortBy => "SortByFn" | .startsWith => "StartsWithFn"
  | .sum => "SumFn" | .toArray => "ToArrayFn" | .toNumber => "ToNumberFn" | .toString => "ToStringFn"
  | .type => "TypeFn" | .values => "ValuesFn"

def lookupSig (n : String) : List (String × Sig) → Option Sig
  | [] => none
  | (k, s) :: r => if k = n then some s else lookupSig n r

def lookupStr (n : String) : List (String × String) → Option String
  | [] => none
  | (k, s) :: r => if k = n then some s else lookupStr n r

/-- every `defn!` in functions.rs today declares the documented signature -/
theorem C06_signature_table (b : Builtin) :
    lookupSig b.structName Generated.signatures = some b.sig := by
  cases b <;> exact rfl

/-- `register_builtin_functions` registers exactly the 26 documented names, each bound to its struct -/
theorem C06_registration_table :
    Generated.registrations.length = 26 ∧
    ∀ p ∈ Builtin.all, lookupStr p.1 Generated.registrations = some p.2.structName := by
  decide +kernel

theorem C06_validate_arity (s : Sig) (args : List Val) (off : Nat) (h : s.arityOk args.length = false) :
    s.validate args off =
      .error (.runtime (if args.length < s.inputs.length then .notEnough s.inputs.length args.length
                        else .tooMany s.inputs.length args.length) off) :=
  validate_arity_error s args off h

theorem C06_validate_ok_iff (s : Sig) (args : List Val) (off : Nat) :
    s.validate args off = .ok () ↔
      s.arityOk args.length = true ∧ ∀ k v, args[k]? = some v → ∃ t, s.param k = some t ∧ t.isValid v = true :=
  validate_ok_iff s args off

theorem C06_validate_type (s : Sig) (args : List Val) (off : Nat) (ha : s.arityOk args.length = true)
    (k : Nat) (v : Val) (t : ArgT) (hk : args[k]? = some v) (ht : s.param k = some t) (hbad : t.isValid v = false)
    (hfirst : ∀ j < k, ∀ w u, args[j]? = some w → s.param j = some u → u.isValid w = true) :
    s.validate args off = .error (.runtime (.invalidType t.name v.type.name k) off) := by
  rw [validate_of_arityOk s args off ha]
  have := Sig.validateArgs_type_error s off args 0 k v t hk (by simpa using ht) hbad (by
    intro i hi w hw
    obtain ⟨u, hu⟩ := Sig.param_isSome_of_arityOk s _ ha i (List.getElem?_eq_some_iff.1 hw).1
    exact ⟨u, by simpa using hu, hfirst i hi w u hw hu⟩)
  simpa using this

/-- whether an argument satisfies a builtin's parameter type depends only on its type class -/
theorem C06_class_level (b : Builtin) (t : ArgT) (ht : t ∈ b.sig.inputs ∨ b.sig.variadic = some t)
    (v w : Val) (h : v.cls = w.cls) : t.isValid v = t.isValid w := by
  refine isValid_depends_on_cls t ?_ v w h
  rcases ht with ht | ht
  · exact List.all_eq_true.1 (builtin_sigs_flat b).1 t ht
  · simpa [ht] using (builtin_sigs_flat b).2

/-- a successful builtin call returns a value of the function's declared result type -/
theorem C06_result_type (rt : Registry) (fuel : Nat) (b : Builtin) (args : List Val) (off : Nat) (v : Val) (o : Nat)
    (h : callFn rt (fuel + 1) (.builtin b) args off = .ok (v, o)) : v.type ∈ b.resultTypes := by
  rcases callFn_shape b args off with ⟨e, -, hc⟩ | ⟨hb, hv, hc⟩ | ⟨rfl, a, xs, rfl⟩ | ⟨hb', a, xs, rfl⟩
  · cases (hc rt fuel).symm.trans h
  · have hp := (Comp.lift_ok_iff.1 ((hc rt fuel).symm.trans h)).1
    rcases pure_spec b args off hv hb with ⟨_, h', ht⟩ | ⟨_, h', _⟩ <;> cases hp.symm.trans h'
    exact ht
  · rw [callFn_map] at h
    split at h <;> cases h
    exact List.mem_of_elem_eq_true rfl
  · rcases hb' with rfl | rfl | rfl
    · obtain ⟨hk, -⟩ := Comp.lift_ok_iff.1 (callFn_sortBy_eq .. ▸ h)
      cases xs with
      | nil => cases hk; exact List.mem_of_elem_eq_true rfl
      | cons x rest =>
        obtain ⟨k0, ks, -, -, -, rfl⟩ := keyLoop_ok hk
        exact List.mem_of_elem_eq_true rfl
    · exact JType.mem_all _
    · exact JType.mem_all _

/-- after successful validation a builtin without expression-reference parameters cannot hit an
`unreachable!()` / out-of-bounds arm, and its only possible failure is the non-finite-number error
of abs/avg/ceil/floor/sum -/
theorem C06_no_unreachable (b : Builtin) (args : List Val) (off : Nat) (hv : b.sig.validate args off = .ok ())
    (hb : b.usesExpref = false) :
    (∀ m, b.pure args ≠ .error (.panic m)) ∧
    (∀ e, b.pure args = .error e → (∃ msg, e = .internal msg) ∧ b ∈ [Builtin.abs, .avg, .ceil, .floor, .sum]) :=
  ⟨pure_no_panic b args off hv hb, fun e he => pure_error_is_internal b args off hv hb e he⟩

theorem C06_expref_args_shape (b : Builtin) (args : List Val) (off : Nat) (hv : b.sig.validate args off = .ok ())
    (hb : b.usesExpref = true) :
    (b = .map ∧ ∃ a xs, args = [.expref a, .arr xs]) ∨
    ((b = .sortBy ∨ b = .maxBy ∨ b = .minBy) ∧ ∃ a xs, args = [.arr xs, .expref a]) :=
  expref_args_shape b args off hv hb


/-! ### the argument-type, value and type-tag vocabularies (functions.rs:20, variable.rs:52, :22), re-extracted on every run -/
theorem C06_type_vocabulary :
    Generated.argumentTypeFields.map (·.1) = ["Any", "Array", "Bool", "Expref", "Null", "Number", "Object", "String", "TypedArray", "Union"]
    ∧ Generated.jmespathTypeFields.map (·.1) = ["Array", "Boolean", "Expref", "Null", "Number", "Object", "String"]
    ∧ Generated.variableFields.map (·.1) = ["Array", "Bool", "Expref", "Null", "Number", "Object", "String"]
    ∧ (∀ t : ArgT, Generated.argumentTypeVariant t ∈ Generated.argumentTypeFields.map (·.1))
    ∧ (∀ v : Val, Generated.variableVariant v ∈ Generated.variableFields.map (·.1))
    ∧ (∀ v : Val, Generated.jmespathTypeVariant v.type ∈ Generated.jmespathTypeFields.map (·.1)) := by
  refine ⟨rfl, rfl, rfl, ?_, ?_, ?_⟩
  · intro t; cases t <;> simp [Generated.argumentTypeVariant, Generated.argumentTypeFields]
  · intro v; cases v <;> simp [Generated.variableVariant, Generated.variableFields]
  · intro v; cases h : v.type <;> simp [Generated.jmespathTypeVariant, Generated.jmespathTypeFields]


/-! ### `Signature::validate_arity` as re-translated from functions.rs on every run equals the model's arity check -/
open Generated.Code in
theorem C06_translated_validate_arity (s : Sig) (actual off : Nat) :
    arityToExcept off (validate_arity s.inputs s.variadic actual) = s.validateArity actual off :=
  gen_validate_arity_eq s actual off


/-! ### the signature validator as re-translated from functions.rs on every run

`Generated/ValidCode.lean` (by `tools/rs2lean.py`) holds the bodies of `ArgumentType::is_valid`, `Signature::validate`, `validate_arg`,
`validate_arity` and the `Display` impls that name the declared and the actual type, with checked indexing.  They equal the model's validator
for every signature and argument list: the first offending position is the one reported, arity is checked before types, and the checked
`self.inputs[k]` of the non-variadic loop can never be out of bounds once the arity check has passed (a safety fact of the source, proved). -/
open Generated.ValidCode in
theorem C06_translated_validator :
    (∀ (t : ArgT) (v : Val), is_valid t v = t.isValid v) ∧
    (∀ (s : Sig) (args : List Val) (off : Nat), toExcept off (validate s.inputs s.variadic args) = s.validate args off) ∧
    (∀ (inputs : List ArgT) (variadic : Option ArgT) (args : List Val) (f : Fault), validate inputs variadic args ≠ .error (.fault f)) ∧
    (∀ t : ArgT, argument_type_fmt t = t.name) ∧ (∀ t : JType, jmespath_type_fmt t = t.name) :=
  ⟨gen_is_valid_eq, gen_validate_eq, gen_validate_no_fault, gen_argt_name_eq, gen_jtype_name_eq⟩

end JmesVerif

#print axioms JmesVerif.C06_signature_table
#print axioms JmesVerif.C06_registration_table
#print axioms JmesVerif.C06_validate_arity
#print axioms JmesVerif.C06_validate_ok_iff
#print axioms JmesVerif.C06_validate_type
#print axioms JmesVerif.C06_class_level
#print axioms JmesVerif.C06_result_type
#print axioms JmesVerif.C06_no_unreachable
#print axioms JmesVerif.C06_expref_args_shape
#print axioms JmesVerif.C06_type_vocabulary
#print axioms JmesVerif.C06_translated_validate_arity
#print axioms JmesVerif.C06_translated_validator
