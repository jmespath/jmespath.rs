import JmesVerif.Lemmas.ParserSound
import JmesVerif.Lemmas.ParserComplete
import JmesVerif.Lemmas.ParserFuel
import JmesVerif.Lemmas.Lexer
import JmesVerif.Lemmas.AbnfSound
import JmesVerif.Lemmas.AbnfComplete
import JmesVerif.Lemmas.LexTable
import JmesVerif.Lemmas.LexSpell
/-!
# C03 — compile accepts exactly the JMESPath language

`Legal` (`Spec/Grammar.lean`) is the published grammar read at token level with the binding-power
disambiguation — extended at four marked places (known findings F3, F4, F5; F16 concerns the tree,
not acceptance) where the code, like the reference implementation, accepts more; the executable
deviation counters of `Spec/GrammarCheck.lean` classify those strings in the check.

* `C03_sound`     — whatever compiles is a sentence: the tokens are the yield of a `Legal` tree.
* `C03_complete`  — every sentence compiles (to its own tree), for every length and nesting.
* `C03_language`  — the two together, at string level, incl. the lexical rules.
* `C03_no_fuel_tokens` — the model's fuel is never the reason for a rejection (so "rejected" means a
                    parse error of the code, not an artefact of the model).
-/
namespace JmesVerif
open Parser

/-! ### no tree spells the end marker -/

def allReal (ts : List Tok) : Prop := ∀ t ∈ ts, t.isEof = false

theorem allReal_nil : allReal [] := by intro t h; cases h
theorem allReal_cons {t : Tok} {ts : List Tok} (h1 : t.isEof = false) (h2 : allReal ts) : allReal (t :: ts) := by
  intro x hx
  rcases List.mem_cons.mp hx with rfl | hx
  · exact h1
  · exact h2 _ hx
theorem allReal_append {a b : List Tok} (h1 : allReal a) (h2 : allReal b) : allReal (a ++ b) := by
  intro x hx
  rcases List.mem_append.mp hx with hx | hx
  · exact h1 _ hx
  · exact h2 _ hx

theorem optNum_real : ∀ o : Option Int, allReal (optNumToks o)
  | none => allReal_nil
  | some _ => allReal_cons rfl allReal_nil

theorem hdr_real : ∀ h : SliceHdr, allReal h.toks
  | ⟨a, b, none⟩ =>
    allReal_append (optNum_real a) (allReal_cons rfl (allReal_append (optNum_real b) allReal_nil))
  | ⟨a, b, some c⟩ =>
    allReal_append (optNum_real a)
      (allReal_cons rfl (allReal_append (optNum_real b) (allReal_cons rfl (optNum_real c))))

theorem keyTok_real (q : Bool) (s : String) : (keyTok q s).isEof = false := by
  cases q <;> rfl
theorem cmpTok_real (o : Cmp) : (cmpTok o).isEof = false := by cases o <;> rfl

mutual
theorem Nud.toks_real : ∀ n : Nud, allReal n.toks
  | .at => allReal_cons rfl allReal_nil
  | .field _ => allReal_cons rfl allReal_nil
  | .qfield _ => allReal_cons rfl allReal_nil
  | .call _ args => allReal_cons rfl (allReal_cons rfl (allReal_append (argsToks_real args) (allReal_cons rfl allReal_nil)))
  | .lit _ => allReal_cons rfl allReal_nil
  | .star r => allReal_cons rfl (Rhs.toks_real r)
  | .idx _ => allReal_cons rfl (allReal_cons rfl (allReal_cons rfl allReal_nil))
  | .slice h r => allReal_cons rfl (allReal_append (hdr_real h) (allReal_cons rfl (Rhs.toks_real r)))
  | .wildIdx r => allReal_cons rfl (allReal_cons rfl (allReal_cons rfl (Rhs.toks_real r)))
  | .mlist es => allReal_cons rfl (allReal_append (argsToks_real es) (allReal_cons rfl allReal_nil))
  | .flatten r => allReal_cons rfl (Rhs.toks_real r)
  | .mhash kvs => allReal_cons rfl (allReal_append (kvsToks_real kvs) (allReal_cons rfl allReal_nil))
  | .not e => allReal_cons rfl (Expr.toks_real e)
  | .filter p r => allReal_cons rfl (allReal_append (Expr.toks_real p) (allReal_cons rfl (Rhs.toks_real r)))
  | .paren e => allReal_cons rfl (allReal_append (Expr.toks_real e) (allReal_cons rfl allReal_nil))
  | .expref e => allReal_cons rfl (Expr.toks_real e)
theorem Led.toks_real : ∀ l : Led, allReal l.toks
  | .dotStar r => allReal_cons rfl (allReal_cons rfl (Rhs.toks_real r))
  | .dot d => allReal_cons rfl (DotRhs.toks_real d)
  | .index _ => allReal_cons rfl (allReal_cons rfl (allReal_cons rfl allReal_nil))
  | .sliceL h r => allReal_cons rfl (allReal_append (hdr_real h) (allReal_cons rfl (Rhs.toks_real r)))
  | .wildIdxL r => allReal_cons rfl (allReal_cons rfl (allReal_cons rfl (Rhs.toks_real r)))
  | .or e => allReal_cons rfl (Expr.toks_real e)
  | .and e => allReal_cons rfl (Expr.toks_real e)
  | .pipe e => allReal_cons rfl (Expr.toks_real e)
  | .cmp o e => allReal_cons (cmpTok_real o) (Expr.toks_real e)
  | .flattenL r => allReal_cons rfl (Rhs.toks_real r)
  | .filterL p r => allReal_cons rfl (allReal_append (Expr.toks_real p) (allReal_cons rfl (Rhs.toks_real r)))
  | .callDev args => allReal_cons rfl (allReal_append (argsToks_real args) (allReal_cons rfl allReal_nil))
theorem Rhs.toks_real : ∀ r : Rhs, allReal r.toks
  | .none => allReal_nil
  | .dot d => allReal_cons rfl (DotRhs.toks_real d)
  | .bracket e => Expr.toks_real e
theorem DotRhs.toks_real : ∀ d : DotRhs, allReal d.toks
  | .mlist es => allReal_cons rfl (allReal_append (argsToks_real es) (allReal_cons rfl allReal_nil))
  | .expr e => Expr.toks_real e
theorem Expr.toks_real : ∀ e : Expr, allReal e.toks
  | .mk h ls => allReal_append (Nud.toks_real h) (ledsToks_real ls)
theorem ledsToks_real : ∀ ls : List Led, allReal (ledsToks ls)
  | [] => allReal_nil
  | l :: ls => allReal_append (Led.toks_real l) (ledsToks_real ls)
theorem argsToks_real : ∀ es : List Expr, allReal (argsToks es)
  | [] => allReal_nil
  | e :: es => allReal_append (Expr.toks_real e) (argsTail_real es)
theorem argsTail_real : ∀ es : List Expr, allReal (argsTail es)
  | [] => allReal_nil
  | e :: es => allReal_cons rfl (allReal_append (Expr.toks_real e) (argsTail_real es))
theorem kvsToks_real : ∀ kvs : List (Bool × String × Expr), allReal (kvsToks kvs)
  | [] => allReal_nil
  | (q, s, e) :: r => allReal_cons (keyTok_real q s) (allReal_cons rfl (allReal_append (Expr.toks_real e) (kvsTail_real r)))
theorem kvsTail_real : ∀ kvs : List (Bool × String × Expr), allReal (kvsTail kvs)
  | [] => allReal_nil
  | (q, s, e) :: r =>
    allReal_cons rfl (allReal_cons (keyTok_real q s) (allReal_cons rfl (allReal_append (Expr.toks_real e) (kvsTail_real r))))
end


/-- **Soundness.** If the parser accepts a token list, that list is the yield of a `Legal` tree
(plus the end marker), and the tree the parser built is the one the rules assign. -/
theorem C03_sound (ts : List PT) (e : Expr) (a : Ast) (h : parseTokens ts = .ok (e, a)) :
    (tk ts = e.toks ∨ tk ts = e.toks ++ [Tok.eof]) ∧ e.Legal 0 ∧ a.strip = e.ast :=
  T1_parseTokens ts e a h

/-- **Completeness.** Every `Legal` tree — of any length and nesting — is accepted, and parses to
itself, whatever the positions attached to its tokens. -/
theorem C03_complete (e : Expr) (hl : e.Legal 0) (ts : List PT) (hy : tk ts = e.toks ++ [Tok.eof]) :
    ∃ a, parseTokens ts = .ok (e, a) ∧ a.strip = e.ast := by
  obtain ⟨n, hn⟩ := T2_expr e 0 hl (by omega) ts [Tok.eof] 0 hy (by simp [peekL, Tok.lbp]) (by simp [peekL, Tok.lbp])
  -- the fuel `parseTokens` uses is enough: its result is not the fuel error, hence stable
  let N := 8 * ts.length + 8
  have hN : Parser.expr N 0 ts 0 ≠ .error .fuel := expr_fuel_ok' N 0 ts 0 (by simp [N])
  obtain ⟨a, ts', off', hM, htk⟩ := hn (max N n) (Nat.le_max_right _ _)
  have hstab := expr_mono N 0 ts 0 _ rfl hN (max N n) (Nat.le_max_left _ _)
  rw [hM] at hstab
  have hts' : ∃ p, ts' = [(p, Tok.eof)] := by
    cases ts' with
    | nil => simp [tk] at htk
    | cons pt r =>
      obtain ⟨p, t⟩ := pt
      simp only [tk_cons, List.cons.injEq] at htk
      obtain ⟨rfl, hr⟩ := htk
      cases r with
      | nil => exact ⟨p, rfl⟩
      | cons x xs => simp [tk] at hr
  obtain ⟨p, rfl⟩ := hts'
  have hres : parseTokens ts = .ok (e, a) := by
    unfold parseTokens
    simp only [← hstab, N]
  refine ⟨a, hres, ?_⟩
  exact (T1_parseTokens ts e a hres).2.2

/-- **Against the published ABNF (one direction).** `Spec/Abnf.lean` transcribes the specification's ABNF, production by
production, as an (ambiguous) context-free grammar over tokens.  Whatever the parser accepts without using one of the three
listed deviations (F3 a call applied to a parenthesised field, F4 a multi-select list as a projection's bracket right-hand
side, F5 `&e` outside a function argument) is a sentence of that grammar — so the deviations counted by `GrammarCheck` are
the ONLY way a non-sentence can compile. -/
theorem C03_abnf_sound (ts : List PT) (e : Expr) (a : Ast) (h : parseTokens ts = .ok (e, a))
    (hd : (GrammarCheck.exprDev false e).languageClean) : Abnf.Expression e.toks :=
  abnf_sound e 0 (C03_sound ts e a h).2.1 hd

/-- the model never rejects for lack of fuel -/
theorem C03_no_fuel_tokens (ts : List PT) : parseTokens ts ≠ .error .fuel := parseTokens_no_fuel ts

/-- a compiled string: its tokens are the yield of the legal tree followed by the end marker (the lexer's list ends with the
end marker and no tree spells it, which rules out the other alternative of `C03_sound`) -/
theorem parseExpr_ok {cs : List Char} {e : Expr} {a : Ast} (h : parseExpr cs = .ok (e, a)) :
    ∃ ts, tokenize cs = .ok ts ∧ parseTokens ts = .ok (e, a) ∧ tk ts = e.toks ++ [Tok.eof] ∧ e.Legal 0 ∧
      a.strip = e.ast := by
  unfold parseExpr at h
  split at h
  · cases h
  · rename_i ts hlex
    split at h
    · cases h
    · rename_i r hp
      cases h
      obtain ⟨hy, hl, ha⟩ := T1_parseTokens ts e a hp
      refine ⟨ts, hlex, hp, hy.resolve_left fun hy => ?_, hl, ha⟩
      obtain ⟨mid, rfl, _⟩ := tokenize_shape cs ts hlex
      have hmem : Tok.eof ∈ e.toks := by rw [← hy]; simp [tk]
      cases Expr.toks_real e _ hmem

/-- **The language.** A string compiles iff it lexes (documented lexical rules, `Model/Lexer`) to
tokens that are exactly the yield of a `Legal` tree followed by the end marker. -/
theorem C03_language (cs : List Char) :
    (∃ (e : Expr) (a : Ast), parseExpr cs = .ok (e, a)) ↔
    (∃ (ts : List PT) (e : Expr), tokenize cs = .ok ts ∧ e.Legal 0 ∧ tk ts = e.toks ++ [Tok.eof]) := by
  constructor
  · rintro ⟨e, a, h⟩
    obtain ⟨ts, hlex, _, hy, hl, _⟩ := parseExpr_ok h
    exact ⟨ts, e, hlex, hl, hy⟩
  · rintro ⟨ts, e, hlex, hl, hy⟩
    obtain ⟨a, hp, _⟩ := C03_complete e hl ts hy
    exact ⟨e, a, by simp [parseExpr, hlex, hp]⟩

/-- **Against the published ABNF (other direction).** Every sentence of the published grammar — any derivation of the ambiguous
ABNF, of any size — is accepted by the parser, through a tree that uses none of the deviations. -/
theorem C03_abnf_complete (w : List Tok) (h : Abnf.Expression w) (ts : List PT) (hy : tk ts = w ++ [Tok.eof]) :
    ∃ (e : Expr) (a : Ast), parseTokens ts = .ok (e, a) ∧ (GrammarCheck.exprDev false e).languageClean := by
  obtain ⟨e, hl, ht, hc⟩ := abnf_complete w h
  obtain ⟨a, hp, _⟩ := C03_complete e hl ts (by rw [ht]; exact hy)
  exact ⟨e, a, hp, hc⟩

/-- **The language, against the specification's own grammar.** A string compiles *without one of the three listed deviations*
iff it lexes to a token list that the published ABNF derives (followed by the end marker).  Together with the deviation
counters this says: `compile` accepts exactly the JMESPath language, plus exactly the strings of the classes F3, F4, F5. -/
theorem C03_abnf_language (cs : List Char) :
    (∃ (e : Expr) (a : Ast), parseExpr cs = .ok (e, a) ∧ (GrammarCheck.exprDev false e).languageClean) ↔
    (∃ (ts : List PT) (w : List Tok), tokenize cs = .ok ts ∧ Abnf.Expression w ∧ tk ts = w ++ [Tok.eof]) := by
  constructor
  · rintro ⟨e, a, h, hc⟩
    obtain ⟨ts, hlex, _, hy, hl, _⟩ := parseExpr_ok h
    exact ⟨ts, e.toks, hlex, abnf_sound e 0 hl hc, hy⟩
  · rintro ⟨ts, w, hlex, hw, hy⟩
    obtain ⟨e, a, hp, hc⟩ := C03_abnf_complete w hw ts hy
    exact ⟨e, a, by simp [parseExpr, hlex, hp], hc⟩

/-- **From sentences to strings.** Every sentence of the published grammar whose token payloads can be written down
(`Tok.Spellable`: identifiers are identifiers, numbers fit 32 bits, literals are JSON values that print and parse back) is the
token list of an actual string — its tokens spelled canonically and separated by single spaces — and that string compiles, to a tree
that spells exactly the sentence and uses none of the deviations. -/
theorem C03_sentence_has_string (w : List Tok) (hw : Abnf.Expression w) (hs : ∀ t ∈ w, t.Spellable) :
    ∃ (e : Expr) (a : Ast), parseExpr (spellToks w) = .ok (e, a) ∧ e.toks = w ∧ a.strip = e.ast ∧
      (GrammarCheck.exprDev false e).languageClean := by
  obtain ⟨ps, hlex, hps⟩ := lex_spell w hs
  obtain ⟨e, hl, ht, hc⟩ := abnf_complete w hw
  obtain ⟨a, hp, hstrip⟩ := C03_complete e hl ps (by rw [ht]; exact hps)
  exact ⟨e, a, by simp [parseExpr, hlex, hp], ht, hstrip, hc⟩


/-- every number token the lexer produces fits a signed 32-bit integer (magnitude ≤ 2^31 − 1) -/
theorem C03_number_tokens_in_range (cs : List Char) (ts : List PT) (h : tokenize cs = .ok ts) (p : Nat) (n : Int)
    (hm : (p, Tok.number n) ∈ ts) : -2147483647 ≤ n ∧ n ≤ 2147483647 := by
  obtain ⟨mid, rfl, hmid⟩ := tokenize_shape cs ts h
  rcases List.mem_append.mp hm with hm | hm
  · have := (hmid _ hm).2
    simpa [Tok.numOk] using this
  · simp at hm

/-- multi-select lists and hashes are non-empty, and their elements are comma separated
(read off the grammar: `argsToks` is `e (, e)*`) -/
theorem C03_multiselect_nonempty (es : List Expr) (kvs : List (Bool × String × Expr)) :
    ((Nud.mlist es).Legal → es ≠ []) ∧ ((Nud.mhash kvs).Legal → kvs ≠ []) ∧
    (∀ k, (DotRhs.mlist es).Legal k → es ≠ []) := by
  refine ⟨fun h => ?_, fun h => ?_, fun k h => ?_⟩
  · simp [Nud.Legal] at h; exact h.1
  · simp [Nud.Legal] at h; exact h.1
  · simp [DotRhs.Legal] at h; exact h.1

theorem C03_commas (e1 e2 : Expr) (es : List Expr) :
    argsToks (e1 :: e2 :: es) = e1.toks ++ Tok.comma :: argsToks (e2 :: es) := by
  simp [argsToks, argsTail]

/-! ### non-vacuity -/
example : (Expr.mk (.field "a") [.or (.mk (.field "b") [])]).Legal 0 := by
  simp [Expr.Legal, Nud.Legal, chain, Led.Legal, Led.lbp, Nud.follow, INF, callDevOk, Led.isCallDev]
example : ¬ (Nud.mlist []).Legal := by simp [Nud.Legal]

end JmesVerif

#print axioms JmesVerif.C03_sound
#print axioms JmesVerif.C03_complete
#print axioms JmesVerif.C03_language
#print axioms JmesVerif.C03_no_fuel_tokens
#print axioms JmesVerif.C03_abnf_sound
#print axioms JmesVerif.C03_abnf_complete
#print axioms JmesVerif.C03_abnf_language
#print axioms JmesVerif.C03_sentence_has_string
#print axioms JmesVerif.C03_number_tokens_in_range
#print axioms JmesVerif.C03_multiselect_nonempty
#print axioms JmesVerif.T1_expr
#print axioms JmesVerif.T2_expr
#print axioms JmesVerif.expr_fuel_ok
