import JmesVerif.Props.C03
import JmesVerif.Lemmas.LexTablePerm
import JmesVerif.Generated.LexTable
/-!
# C03 — the lexer's dispatch table, re-extracted from lexer.rs on every run

Kept in its own module so that a change of `Lexer::tokenize` which the table extractor cannot read confines the broken obligation to the
C03 check (the other parser properties import `Props/C03.lean`, not this file).  This is the module the C03 check audits: the axioms of the
theorems of `Props/C03.lean` are printed again at the end.
-/
namespace JmesVerif

/-- **The lexer's dispatch, re-extracted from lexer.rs on every run, is the documented one** (`decide` over the generated table):
which first characters start an identifier, which are single-character tokens, which look one character ahead, which are
whitespace — and, by `lexOne_eq_table`, the lexer model does exactly what that table says for every character.

The comparison is of the tables as sets of (character range, action) entries (`flatArms`: one entry per range): the generated
entries are a permutation of the documented ones, and the documented ranges are checked to be pairwise disjoint
(`rangesDisjoint`; by `rangesDisjoint_perm` the generated ones then are too).  For pairwise disjoint patterns at most one arm
fits a character, so neither the order of the arms of `match ch` nor the grouping of alternatives into `|` patterns
(`'a'..='z' | 'A'..='Z' | '_' => …` or three arms with the same body) matters (`actOf_perm_of_flat`) — such rewrites of
lexer.rs leave this obligation intact.  A change of what some character does (one more whitespace character, another token
for `*`, an arm removed or added, overlapping patterns) breaks it.  The two alternatives of `consume_lbracket` are likewise
compared up to order (their characters are distinct: `C03_lbracket_alts`). -/
theorem C03_lex_table :
    (flatArms Generated.lexArms).Perm (flatArms lexArmsDoc) ∧ rangesDisjoint (flatArms lexArmsDoc) = true ∧
    Generated.lbracketAlts.Perm lbracketAltsDoc := ⟨by decide, lexArmsDoc_disjoint, by decide⟩

theorem C03_lex_table_actOf (c : Char) : actOf Generated.lexArms c = actOf lexArmsDoc c :=
  (actOf_perm_of_flat C03_lex_table.2.1 C03_lex_table.1.symm c).symm

/-- so for the generated table too, "first matching arm" is "the matching arm" -/
theorem C03_lex_arms_disjoint : rangesDisjoint (flatArms Generated.lexArms) = true := by
  rw [rangesDisjoint_perm C03_lex_table.1]; exact C03_lex_table.2.1

theorem C03_lbracket_alts (c : Char) : altOf Generated.lbracketAlts c = altOf lbracketAltsDoc c :=
  (altOf_perm (l₁ := lbracketAltsDoc) (by decide) C03_lex_table.2.2.symm c).symm

theorem C03_lexOne_follows_table (pos : Nat) (c : Char) (cs : List Char) :
    Lexer.lexOne pos c cs = Lexer.runAct (actOf Generated.lexArms c) pos c cs := by
  rw [C03_lex_table_actOf]; exact lexOne_eq_table pos c cs

/-- the only characters skipped between tokens are space, line feed, tab and carriage return -/
theorem C03_whitespace (c : Char) : actOf Generated.lexArms c = .skip ↔ (c = ' ' ∨ c = '\n' ∨ c = '\t' ∨ c = '\r') := by
  rw [C03_lex_table_actOf]; exact whitespace_iff c

end JmesVerif

#print axioms JmesVerif.C03_lex_table
#print axioms JmesVerif.C03_lex_table_actOf
#print axioms JmesVerif.C03_lex_arms_disjoint
#print axioms JmesVerif.C03_lbracket_alts
#print axioms JmesVerif.C03_lexOne_follows_table
#print axioms JmesVerif.C03_whitespace
#print axioms JmesVerif.C03_sound
#print axioms JmesVerif.C03_complete
#print axioms JmesVerif.C03_language
#print axioms JmesVerif.C03_no_fuel_tokens
#print axioms JmesVerif.C03_abnf_sound
#print axioms JmesVerif.C03_abnf_complete
#print axioms JmesVerif.C03_abnf_language
#print axioms JmesVerif.C03_sentence_has_string
#print axioms JmesVerif.C03_number_tokens_in_range
#print axioms JmesVerif.C03_multiselect_nonempty
#print axioms JmesVerif.T1_expr
#print axioms JmesVerif.T2_expr
#print axioms JmesVerif.expr_fuel_ok
