import JmesVerif.Props.C03
import JmesVerif.Lemmas.Paren
import JmesVerif.Lemmas.ParenLegal
import JmesVerif.Generated.Lbp
import JmesVerif.Generated.Vocab
/-!
# C04 — operators bind by the documented precedence; projections extend as specified

* the binding-power table is re-extracted from the source on each run (`Generated/Lbp.lean`) and
  proved equal to the documented one the grammar theorems use (`C04_lbp_table`); the power passed
  at each call site of the parser is covered by `C04_translated_parser` (`Props/C04Code.lean`),
  where the whole parser is re-translated from the source and proved equal to the model;
* the parse of every sentence is the tree the rules assign (`C04_parse_is_rule_tree`, from T1),
  and that tree is unique (`C04_unambiguous`, from T2): two legal trees with the same token
  string are the same tree;
* every right operand binds tighter than its operator (`C04_operands_bind_tighter`), which is
  left associativity for `| || && ==`…, and a projection's right-hand side stops exactly at a
  token binding below 10 (`C04_projection_stop`);
* adding the implied parentheses never changes the tree (`C04_paren_invariance`).
Known finding F16 (a dotted multi-select list ends the right-hand side) is the one place where
`Legal` — which mirrors the code — differs from the stated rule; see `Spec/GrammarCheck.tailK`.
-/
namespace JmesVerif

/-- the table in lexer.rs today is the documented one -/
theorem C04_lbp_table (t : Tok) : Generated.lbp t = Tok.lbp t := by
  cases t <;> rfl

theorem C04_projection_stop_const : Generated.projectionStop = Parser.projectionStop := rfl

/-- the documented order: pipe < or < and < comparison < flatten < wildcard < filter < dot < not < bracket < call -/
theorem C04_documented_order :
    Tok.lbp .pipe < Tok.lbp .or ∧ Tok.lbp .or < Tok.lbp .and ∧ Tok.lbp .and < Tok.lbp .eq ∧
    Tok.lbp .eq = Tok.lbp .ne ∧ Tok.lbp .eq = Tok.lbp .lt ∧ Tok.lbp .eq = Tok.lbp .lte ∧
    Tok.lbp .eq = Tok.lbp .gt ∧ Tok.lbp .eq = Tok.lbp .gte ∧
    Tok.lbp .eq < Tok.lbp .flatten ∧ Tok.lbp .flatten < Parser.projectionStop ∧
    Parser.projectionStop ≤ Tok.lbp .star ∧ Tok.lbp .star < Tok.lbp .filter ∧
    Tok.lbp .filter < Tok.lbp .dot ∧ Tok.lbp .dot < Tok.lbp .not ∧ Tok.lbp .not < Tok.lbp .lbracket ∧
    Tok.lbp .lbracket < Tok.lbp .lparen ∧
    Tok.lbp .rbracket = 0 ∧ Tok.lbp .rparen = 0 ∧ Tok.lbp .rbrace = 0 ∧ Tok.lbp .comma = 0 ∧
    Tok.lbp .colon = 0 ∧ Tok.lbp .eof = 0 := by
  decide

/-- **The parse is the tree the rules define.**  Whatever `parse` returns is, up to offsets,
`ast` of a `Legal` tree spelling exactly the input tokens. -/
theorem C04_parse_is_rule_tree (cs : List Char) (e : Expr) (a : Ast) (h : parseExpr cs = .ok (e, a)) :
    ∃ ts, tokenize cs = .ok ts ∧ tk ts = e.toks ++ [Tok.eof] ∧ e.Legal 0 ∧ a.strip = e.ast := by
  obtain ⟨ts, hlex, _, h⟩ := parseExpr_ok h
  exact ⟨ts, hlex, h⟩

/-- **Unambiguity.**  Two legal trees with the same token string are the same tree (hence the
same abstract syntax tree): the binding-power rules leave no choice. -/
theorem C04_unambiguous (e₁ e₂ : Expr) (h₁ : e₁.Legal 0) (h₂ : e₂.Legal 0) (h : e₁.toks = e₂.toks) :
    e₁ = e₂ := by
  let ts : List PT := (e₁.toks ++ [Tok.eof]).map (fun t => (0, t))
  have hy1 : tk ts = e₁.toks ++ [Tok.eof] := by simp [ts, tk, List.map_map, Function.comp_def]
  have hy2 : tk ts = e₂.toks ++ [Tok.eof] := by rw [hy1, h]
  obtain ⟨a1, hp1, _⟩ := C03_complete e₁ h₁ ts hy1
  obtain ⟨a2, hp2, _⟩ := C03_complete e₂ h₂ ts hy2
  rw [hp1] at hp2
  simp at hp2
  exact hp2.1

/-- every infix/postfix application inside a tree parsed at power `k` binds tighter than `k`:
the right operand of `||` contains no top-level `||` or `|`, etc. (left associativity) -/
theorem chain_lbp (k f : Nat) (ls : List Led) (h : chain k f ls) : ∀ l ∈ ls, k < l.lbp := by
  induction ls generalizing f with
  | nil => intro l hl; cases hl
  | cons x xs ih =>
    intro l hl
    simp only [chain] at h
    rcases List.mem_cons.mp hl with rfl | hl
    · exact h.1
    · exact ih _ h.2.2.2 l hl

theorem C04_operands_bind_tighter (k : Nat) (h : Nud) (ls : List Led) (hl : (Expr.mk h ls).Legal k) :
    ∀ l ∈ ls, k < l.lbp := by
  simp only [Expr.Legal] at hl
  exact chain_lbp k _ ls hl.2.1

/-- a projection with an empty right-hand side is only followed by a token binding below 10
(pipe, or, and, comparators, closing brackets, comma, colon, flatten, end of input) -/
theorem C04_projection_stop (k : Nat) : Rhs.follow k .none = 9 ∧ 9 < Parser.projectionStop := by
  simp [Rhs.follow, Parser.projectionStop]

/-- **Adding the implied parentheses never changes the tree.** -/
theorem C04_paren_invariance (e : Expr) : (Paren.parenthesize e).ast = e.ast :=
  pExpr_ast e

/-- … and the parenthesised tree is itself a sentence, so (by completeness) the parenthesised *text*
compiles, to a tree with the same `ast`: parenthesising never changes the parse. -/
theorem C04_paren_legal (e : Expr) (h : e.Legal 0) :
    (Paren.parenthesize e).Legal 0 ∧
    ∀ ts : List PT, tk ts = (Paren.parenthesize e).toks ++ [Tok.eof] →
      ∃ a, parseTokens ts = .ok (Paren.parenthesize e, a) ∧ a.strip = e.ast := by
  refine ⟨parenthesize_legal e h, fun ts hy => ?_⟩
  obtain ⟨a, hp, ha⟩ := C03_complete _ (parenthesize_legal e h) ts hy
  exact ⟨a, hp, by rw [ha, C04_paren_invariance]⟩

/-! ### non-vacuity: `a || b || c` groups to the left, `a || b && c` groups `&&` first -/
example : (Expr.mk (.field "a") [.or (.mk (.field "b") []), .or (.mk (.field "c") [])]).Legal 0 := by
  simp [Expr.Legal, Nud.Legal, chain, Led.Legal, Led.lbp, Led.follow, Expr.follow, ledsFollow, Nud.follow, INF, callDevOk, Led.isCallDev]
example : ¬ (Expr.mk (.field "a") [.or (.mk (.field "b") [.or (.mk (.field "c") [])])]).Legal 0 := by
  simp [Expr.Legal, Nud.Legal, chain, Led.Legal, Led.lbp, Led.follow, Expr.follow, ledsFollow, Nud.follow, INF, callDevOk, Led.isCallDev]


/-! ### the public AST / token / comparator vocabulary (ast.rs:25-171, lexer.rs:19, ast.rs:190)

`Generated/Vocab.lean` is re-extracted from the `pub enum` definitions on every run; its functions
`astVariant`, `tokenVariant`, `comparatorVariant` match on the *model's* inductive types with one arm
per Rust variant and one `_` per field, so they elaborate only while the model types have exactly the
variants and arities of the source.  The theorem equates the variant lists with the documented ones and
states that every model node is one of them. -/
theorem C04_ast_vocabulary :
    Generated.astFields.map (·.1) =
      ["And", "Comparison", "Condition", "Expref", "Field", "Flatten", "Function", "Identity", "Index", "Literal",
       "MultiHash", "MultiList", "Not", "ObjectValues", "Or", "Projection", "Slice", "Subexpr"]
    ∧ (∀ a : Ast, Generated.astVariant a ∈ Generated.astFields.map (·.1))
    ∧ (∀ c : Cmp, Generated.comparatorVariant c ∈ Generated.comparatorFields.map (·.1))
    ∧ (∀ t : Tok, Generated.tokenVariant t ∈ Generated.tokenFields.map (·.1))
    ∧ Generated.astFields.all (fun p => p.2.head? == some "offset") = true := by
  -- the name column of each table is computed once; a variant's name is then found by walking down it
  -- (`List.Mem.head` where it stands, `List.Mem.tail` before), which compares no two different strings
  refine ⟨rfl, fun a => ?_, fun c => ?_, fun t => ?_, by decide⟩
  · simp only [Generated.astFields, List.map]
    cases a <;> repeat constructor
  · simp only [Generated.comparatorFields, List.map]
    cases c <;> repeat constructor
  · simp only [Generated.tokenFields, List.map]
    cases t <;> repeat constructor

end JmesVerif

#print axioms JmesVerif.C04_lbp_table
#print axioms JmesVerif.C04_documented_order
#print axioms JmesVerif.C04_parse_is_rule_tree
#print axioms JmesVerif.C04_unambiguous
#print axioms JmesVerif.C04_operands_bind_tighter
#print axioms JmesVerif.C04_projection_stop
#print axioms JmesVerif.C04_paren_invariance
#print axioms JmesVerif.C04_paren_legal
#print axioms JmesVerif.C04_ast_vocabulary
