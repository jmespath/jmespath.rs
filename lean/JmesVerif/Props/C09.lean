import JmesVerif.Lemmas.SpellRoundTrip
import JmesVerif.Model.Interp
import JmesVerif.Model.Parser
/-!
# C09 — raw strings, JSON literals and quoted identifiers denote exactly their value

Spellings are defined in `Spec/Spelling.lean`.  A string has a raw-string spelling iff no odd run
of backslashes stands directly before a quote or at its end (`rawSpellable`: only backslash-quote
is an escape, so such a run would swallow the escaping backslash or the closing quote);
`C09_raw_unspellable` shows the guard is exactly right.
-/
namespace JmesVerif
open Spelling

/-- **Raw strings.**  The raw-string spelling of every spellable string lexes to that string. -/
theorem C09_raw_roundtrip (s : List Char) (hs : rawSpellable s = true) :
    tokenize (rawSpell s) = .ok [(0, .literal (.str (String.ofList s))), (Lexer.utf8Len (rawSpell s), .eof)] := by
  unfold rawSpell
  exact Spell.tokenize_single _ _ _ (raw_roundtrip s hs [] 0)

theorem C09_raw_unspellable (s : List Char) (hs : rawSpellable s = false) :
    tokenize (rawSpell s) ≠ .ok [(0, .literal (.str (String.ofList s))), (Lexer.utf8Len (rawSpell s), .eof)] := by
  have hq : '\'' ≠ '\\' := by decide
  rw [rawSpellable, Spell.rawSpellable_go_eq] at hs
  intro h
  unfold tokenize at h
  simp only [rawSpell, List.length_cons] at h
  rw [Lexer.loop] at h
  simp only [Nat.sub_self] at h
  cases hc : Lexer.consumeInside '\'' (rawBody s ++ ['\'']) [] with
  | none =>
    rw [Spell.lexOne_sq_none _ _ hc] at h
    simp at h
  | some p =>
    obtain ⟨buf, r⟩ := p
    rw [Spell.lexOne_sq _ _ _ _ hc] at h
    simp only at h
    obtain ⟨mid, hm, _⟩ := lexLoop_shape _ _ _ _ _ h
    have hbad := Spell.consumeInside_bad '\'' hq s false hs buf r (by simpa [Spell.pre, Spell.rawBody_eq] using hc)
    simp only [List.reverse_cons, List.reverse_nil, List.nil_append, List.cons_append] at hm
    injection hm with h1 _
    injection h1 with _ h2
    injection h2 with h3
    injection h3 with h4
    exact hbad (by simpa [Spell.pre] using (String.ofList_injective h4).symm)

/-- **Quoted identifiers.**  For every member name — any Unicode string: quotes, backslashes,
control characters (escaped as `\uXXXX`), astral code points — its JSON-string spelling lexes to
the quoted-identifier token of exactly that name. -/
theorem C09_quoted_roundtrip (k : String) :
    tokenize (quotedSpell k) = .ok [(0, .quotedIdentifier k), (Lexer.utf8Len (quotedSpell k), .eof)] := by
  rw [quotedSpell_eq]
  apply Spell.tokenize_single
  rw [quoted_roundtrip]
  simp

set_option linter.unusedVariables false in
/-- **JSON literals.**  The backtick literal holding a value's JSON text (backticks escaped) lexes
to that value — given that the JSON text itself parses back (`C08_parse_print`).  The proof does not
use `hv`: printed text is backtick-safe for every value (`compact_btSafe`). -/
theorem C09_literal_roundtrip (v : Val) (hv : v.isJson = true)
    (hparse : JsonText.parse (JsonPrint.compact v).toList = some v) :
    tokenize (literalSpell v) = .ok [(0, .literal v), (Lexer.utf8Len (literalSpell v), .eof)] := by
  unfold literalSpell
  exact Spell.tokenize_single _ _ _ (literal_lexOne v hparse (compact_btSafe v) [] 0)

/-- one-token expressions: what the parser and the interpreter do with them -/
theorem parse_single_quoted (p e : Nat) (k : String) :
    parseTokens [(p, .quotedIdentifier k), (e, .eof)] = .ok (.mk (.qfield k) [], .field p k) := by
  simp [parseTokens, Parser.expr, Parser.nud, Parser.loop, Parser.peekT, Tok.lbp]

theorem parse_single_literal (p e : Nat) (v : Val) :
    parseTokens [(p, .literal v), (e, .eof)] = .ok (.mk (.lit v) [], .literal p v) := by
  simp [parseTokens, Parser.expr, Parser.nud, Parser.loop, Parser.peekT, Tok.lbp]

/-- **a quoted identifier selects the member with exactly that name** -/
theorem C09_quoted_selects (rt : Registry) (k : String) (kvs : List (String × Val)) (fuel : Nat) :
    ∃ e a, parseExpr (quotedSpell k) = .ok (e, a) ∧
      search rt (fuel + 1) a (.obj kvs) = .ok ((Val.lookup k kvs).getD .null) := by
  refine ⟨.mk (.qfield k) [], .field 0 k, ?_, ?_⟩
  · simp only [parseExpr, C09_quoted_roundtrip k, parse_single_quoted]
  · simp [search, interp, Val.getField]

/-- **a raw string evaluates to the string it spells** (on any document) -/
theorem C09_raw_evaluates (rt : Registry) (s : List Char) (hs : rawSpellable s = true) (d : Val) (fuel : Nat) :
    ∃ e a, parseExpr (rawSpell s) = .ok (e, a) ∧ search rt (fuel + 1) a d = .ok (.str (String.ofList s)) := by
  refine ⟨.mk (.lit (.str (String.ofList s))) [], .literal 0 (.str (String.ofList s)), ?_, ?_⟩
  · simp only [parseExpr, C09_raw_roundtrip s hs, parse_single_literal]
  · simp [search, interp]

/-- **a JSON literal evaluates to its value** -/
theorem C09_literal_evaluates (rt : Registry) (v : Val) (hv : v.isJson = true)
    (hparse : JsonText.parse (JsonPrint.compact v).toList = some v) (d : Val) (fuel : Nat) :
    ∃ e a, parseExpr (literalSpell v) = .ok (e, a) ∧ search rt (fuel + 1) a d = .ok v := by
  refine ⟨.mk (.lit v) [], .literal 0 v, ?_, ?_⟩
  · simp only [parseExpr, C09_literal_roundtrip v hv hparse, parse_single_literal]
  · simp [search, interp]

example : rawSpellable "it's a\\\\".toList = true ∧ rawSpellable "a\\".toList = false := by decide

end JmesVerif

#print axioms JmesVerif.C09_raw_roundtrip
#print axioms JmesVerif.C09_raw_unspellable
#print axioms JmesVerif.C09_quoted_roundtrip
#print axioms JmesVerif.C09_literal_roundtrip
#print axioms JmesVerif.C09_quoted_selects
#print axioms JmesVerif.C09_raw_evaluates
#print axioms JmesVerif.C09_literal_evaluates
