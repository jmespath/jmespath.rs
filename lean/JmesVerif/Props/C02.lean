import JmesVerif.Lemmas.Builtins
import JmesVerif.Lemmas.F64Spec
import JmesVerif.Lemmas.SumAvg
import JmesVerif.Lemmas.FunctionsSpec
/-!
# C02 — every built-in function computes the value the specification defines

Contracts of the builtins over the model of `functions.rs` (`Model/Interp.lean`), each for *all*
well-typed arguments.  `vle a b` is the order `sort` uses (`Val.cmp a b ≠ Greater`: code-point
order on strings, order of the double image on numbers); `Homog xs` = all strings or all finite
numbers: what the signature `array[string]|array[number]` admits (`SameKind`) together with the
finiteness `serde_json::Number` guarantees.
Helper lemmas and the remaining contracts (keys/values lookup, to_array, type, …) are in
`Lemmas/Builtins.lean`; the principal ones are stated here.
-/
namespace JmesVerif

theorem C02_sort_perm (xs : List Val) : (sortVals xs).Perm xs := sortKey_perm id xs
theorem C02_sort_sorted (xs : List Val) (h : Homog xs) : (sortVals xs).Pairwise (fun a b => vle a b = true) :=
  sortKey_sorted id xs (by rwa [List.map_id])
theorem C02_sort_stable (xs : List Val) (h : Homog xs) (a b : Val) (hab : vle a b = true)
    (hs : [a, b].Sublist xs) : [a, b].Sublist (sortVals xs) := sortKey_stable id xs (by rwa [List.map_id]) a b hab hs

/-- **sort is a stable ascending permutation** (any length, duplicate keys included) -/
theorem C02_sort (args : List Val) (off : Nat) (hv : Builtin.sort.sig.validate args off = .ok ())
    (hfin : ∀ xs n, args = [.arr xs] → Val.num n ∈ xs → n.toF64.isFinite = true) :
    ∃ xs ys, args = [.arr xs] ∧ Builtin.pure .sort args = .ok (.arr ys) ∧ ys.Perm xs ∧
      ys.Pairwise (fun a b => vle a b = true) ∧
      ∀ a b, vle a b = true → [a, b].Sublist xs → [a, b].Sublist ys := by
  cases Builtin.accepts_of_validate hv with
  | sort xs h =>
    have hH := homog_of_strsOrNums h fun n hn => hfin xs n rfl hn
    exact ⟨xs, sortVals xs, rfl, rfl, C02_sort_perm xs, C02_sort_sorted xs hH, C02_sort_stable xs hH⟩


/-- string order is code-point order -/
theorem C02_string_order (a b : String) : Val.cmp (.str a) (.str b) = compare a b := rfl

/-- **sort_by**: evaluates the expression reference once per element (first element, then `keysTyped`
over the rest, in order) and returns the elements in a stable ascending order of their keys -/
theorem C02_sort_by (rt : Registry) (fuel : Nat) (x : Val) (rest : List Val) (a : Ast) (off off1 off2 : Nat)
    (k0 : Val) (ks : List Val) (h1 : interp rt fuel x a off = .ok (k0, off1))
    (hty : k0.type = .string ∨ k0.type = .number)
    (h2 : keysTyped rt fuel rest a k0.type 1 off1 = .ok (ks, off2)) (hh : Homog (k0 :: ks)) :
    ∃ ps, callFn rt (fuel + 1) (.builtin .sortBy) [.arr (x :: rest), .expref a] off = .ok (.arr (ps.map (·.1)), off2) ∧
      ps.Perm ((x :: rest).zip (k0 :: ks)) ∧ (ps.map (·.1)).Perm (x :: rest) ∧
      ps.Pairwise (fun p q => vle p.2 q.2 = true) ∧
      ∀ p q, vle p.2 q.2 = true → [p, q].Sublist ((x :: rest).zip (k0 :: ks)) → [p, q].Sublist ps := by
  have hl := (keysTyped_spec rt a _ fuel rest _ _ _ _ h2).1
  have hH : Homog (((x :: rest).zip (k0 :: ks)).map (·.2)) := zip_keys_homog x k0 rest ks hl hh
  have hfst : ((x :: rest).zip (k0 :: ks)).map (·.1) = x :: rest :=
    List.map_fst_zip (by simp [hl])
  have hp : (sortPairs ((x :: rest).zip (k0 :: ks))).Perm _ := sortKey_perm Prod.snd _
  exact ⟨_, (callFn_sortBy_eq ..).trans (keyLoop_of_ok _ _ h1 hty h2), hp, by simpa only [hfst] using hp.map (·.1),
    sortKey_sorted _ _ hH, sortKey_stable _ _ hH⟩

/-! **max_by / min_by** return an input element whose key is extreme — the first such on ties -/

theorem C02_max_by (rt : Registry) (fuel : Nat) (x : Val) (rest : List Val) (a : Ast) (off off1 off2 : Nat)
    (k0 : Val) (ks : List Val) (h1 : interp rt fuel x a off = .ok (k0, off1))
    (hty : k0.type = .string ∨ k0.type = .number)
    (h2 : keysTyped rt fuel rest a k0.type 1 off1 = .ok (ks, off2)) (hh : Homog (k0 :: ks)) :
    ∃ p pre suf, byExtreme rt (fuel + 1) true (x :: rest) a off = .ok (p.1, off2) ∧
      (x :: rest).zip (k0 :: ks) = pre ++ p :: suf ∧ (∀ q ∈ pre, Val.cmp p.2 q.2 = .gt) ∧
      (∀ q ∈ suf, vle q.2 p.2 = true) ∧ (∀ q ∈ (x :: rest).zip (k0 :: ks), vle q.2 p.2 = true) := by
  have hH := zip_keys_homog x k0 rest ks (keysTyped_spec rt a _ fuel rest _ _ _ _ h2).1 hh
  obtain ⟨pre, suf, he, hp, hs, hall⟩ := pickMax_spec x k0 (rest.zip ks) hH
  exact ⟨_, pre, suf, (byExtreme_succ ..).trans (keyLoop_of_ok _ _ h1 hty h2), he, hp, hs, hall⟩

theorem C02_min_by (rt : Registry) (fuel : Nat) (x : Val) (rest : List Val) (a : Ast) (off off1 off2 : Nat)
    (k0 : Val) (ks : List Val) (h1 : interp rt fuel x a off = .ok (k0, off1))
    (hty : k0.type = .string ∨ k0.type = .number)
    (h2 : keysTyped rt fuel rest a k0.type 1 off1 = .ok (ks, off2)) (hh : Homog (k0 :: ks)) :
    ∃ p pre suf, byExtreme rt (fuel + 1) false (x :: rest) a off = .ok (p.1, off2) ∧
      (x :: rest).zip (k0 :: ks) = pre ++ p :: suf ∧ (∀ q ∈ pre, Val.cmp q.2 p.2 = .gt) ∧
      (∀ q ∈ suf, vle p.2 q.2 = true) ∧ (∀ q ∈ (x :: rest).zip (k0 :: ks), vle p.2 q.2 = true) := by
  have hH := zip_keys_homog x k0 rest ks (keysTyped_spec rt a _ fuel rest _ _ _ _ h2).1 hh
  obtain ⟨pre, suf, he, hp, hs, hall⟩ := pickMin_spec x k0 (rest.zip ks) hH
  exact ⟨_, pre, suf, (byExtreme_succ ..).trans (keyLoop_of_ok _ _ h1 hty h2), he, hp, hs, hall⟩

/-! **max / min**: null on the empty array, otherwise an element that bounds all others -/

theorem C02_max (args : List Val) (off : Nat) (hv : Builtin.max.sig.validate args off = .ok ())
    (hfin : ∀ xs n, args = [.arr xs] → Val.num n ∈ xs → n.toF64.isFinite = true) :
    ∃ xs v, args = [.arr xs] ∧ Builtin.pure .max args = .ok v ∧
      ((xs = [] ∧ v = .null) ∨ (v ∈ xs ∧ (∀ x ∈ xs, vle x v = true) ∧
        ∃ pre suf, xs = pre ++ v :: suf ∧ ∀ x ∈ suf, Val.cmp v x = .gt)) := by
  cases Builtin.accepts_of_validate hv with
  | max xs h =>
    refine ⟨xs, _, rfl, rfl, ?_⟩
    cases hf : foldMax xs with
    | none => cases xs <;> first | exact .inl ⟨rfl, rfl⟩ | simp [foldMax] at hf
    | some v => exact .inr (foldMax_spec xs (homog_of_strsOrNums h fun n hn => hfin xs n rfl hn) v hf)

theorem C02_min (args : List Val) (off : Nat) (hv : Builtin.min.sig.validate args off = .ok ())
    (hfin : ∀ xs n, args = [.arr xs] → Val.num n ∈ xs → n.toF64.isFinite = true) :
    ∃ xs v, args = [.arr xs] ∧ Builtin.pure .min args = .ok v ∧
      ((xs = [] ∧ v = .null) ∨ (v ∈ xs ∧ (∀ x ∈ xs, vle v x = true) ∧
        ∃ pre suf, xs = pre ++ v :: suf ∧ ∀ x ∈ pre, Val.cmp x v = .gt)) := by
  cases Builtin.accepts_of_validate hv with
  | min xs h =>
    refine ⟨xs, _, rfl, rfl, ?_⟩
    cases hf : foldMin xs with
    | none => cases xs <;> first | exact .inl ⟨rfl, rfl⟩ | simp [foldMin] at hf
    | some v => exact .inr (foldMin_spec xs (homog_of_strsOrNums h fun n hn => hfin xs n rfl hn) v hf)

/-- **merge is right-biased**: a key's value is that of the last argument object having the key -/
theorem C02_merge (k : String) (args : List Val) :
    ∃ m, Builtin.pure .merge args = .ok (.obj m) ∧ Val.lookup k m = lastBinding k args :=
  ⟨mergeObjs [] args, rfl, by rw [mergeObjs_lookup]; exact Option.or_none⟩

/-! **length / reverse count Unicode code points** -/

theorem C02_length_codepoints (s : String) : Builtin.pure .length [.str s] = .ok (.num (.pos s.toList.length)) := rfl
theorem C02_reverse_codepoints (s : String) :
    Builtin.pure .reverse [.str s] = .ok (.str (String.ofList s.toList.reverse)) := reverse_str s

/-- **keys and values correspond pairwise** -/
theorem C02_keys_values (kvs : List (String × Val)) :
    ∃ (ks : List String) (vs : List Val), Builtin.pure .keys [.obj kvs] = .ok (.arr (ks.map .str)) ∧
      Builtin.pure .values [.obj kvs] = .ok (.arr vs) ∧ ks.zip vs = kvs ∧ ks.length = kvs.length ∧ vs.length = kvs.length :=
  ⟨kvs.map (·.1), kvs.map (·.2), by rw [List.map_map]; rfl, rfl, (List.zip_of_prod rfl rfl).symm, List.length_map _, List.length_map _⟩

/-- **to_number yields a number or null and nothing else** -/
theorem C02_to_number (a : Val) :
    (∃ n, Builtin.pure .toNumber [a] = .ok (.num n)) ∨ Builtin.pure .toNumber [a] = .ok .null :=
  toNumber_cases a

/-! **avg of an empty array is null**; otherwise sum / length in double arithmetic -/

theorem C02_avg_empty : Builtin.pure .avg [.arr []] = .ok .null := rfl
theorem C02_avg (xs : List Val) (h : xs ≠ []) :
    Builtin.pure .avg [.arr xs] = numOfF64 (F64.div (sumF64 xs) (F64.ofNat xs.length)) "Expected to be a valid f64" :=
  avg_nonempty xs h

/-! **map keeps nulls and preserves length** (`C02_map_length`); the reference is evaluated once per
element, against that element, in order (`C02_expref_once_per_element`) -/

theorem C02_map_length (rt : Registry) (fuel : Nat) (a : Ast) (xs : List Val) (off : Nat) (v : Val) (off' : Nat)
    (h : callFn rt (fuel + 1) (.builtin .map) [.expref a, .arr xs] off = .ok (v, off')) :
    ∃ ys, v = .arr ys ∧ ys.length = xs.length := by
  rw [callFn_map] at h
  split at h
  · cases h
  · next vs o hm => cases h; exact ⟨vs, rfl, (mapExpref_spec rt a fuel xs off vs _ hm).1⟩

theorem C02_expref_once_per_element (rt : Registry) (fuel : Nat) (x : Val) (xs : List Val) (a : Ast) (off : Nat) :
    mapExpref rt (fuel + 1) (x :: xs) a off =
      (match interp rt fuel x a off with
       | .error e => .error e
       | .ok (v, off) =>
         match mapExpref rt fuel xs a off with
         | .error e => .error e
         | .ok (vs, off) => .ok (v :: vs, off)) := by
  simp only [mapExpref]
  rfl

/-- **not_null** returns the first non-null argument -/
theorem C02_not_null (args : List Val) :
    (∃ pre v suf, args = pre ++ v :: suf ∧ (∀ x ∈ pre, x = .null) ∧ v ≠ .null ∧ Builtin.pure .notNull args = .ok v) ∨
    ((∀ x ∈ args, x = .null) ∧ Builtin.pure .notNull args = .ok .null) := notNull_spec args

/-! **contains / starts_with / ends_with** are infix / prefix / suffix on code points -/

theorem C02_contains (s n : String) :
    Builtin.pure .contains [.str s, .str n] = .ok (.bool true) ↔ ∃ pre suf, s.toList = pre ++ n.toList ++ suf := by
  rw [← isInfix_iff]
  exact ⟨fun h => Val.bool.inj (Except.ok.inj h), fun h => h ▸ rfl⟩
theorem C02_starts_with (s t : String) :
    Builtin.pure .startsWith [.str s, .str t] = .ok (.bool true) ↔ ∃ suf, s.toList = t.toList ++ suf := by
  rw [startsWith_eq, Except.ok.injEq, Val.bool.injEq]
  exact isPrefixOf_iff_append _ _
theorem C02_ends_with (s t : String) :
    Builtin.pure .endsWith [.str s, .str t] = .ok (.bool true) ↔ ∃ pre, s.toList = pre ++ t.toList := by
  rw [endsWith_eq, Except.ok.injEq, Val.bool.injEq]
  exact isSuffixOf_iff_append _ _

theorem C02_join (glue : String) (ss : List String) :
    Builtin.pure .join [.str glue, .arr (ss.map .str)] = .ok (.str (glue.intercalate ss)) := join_eq glue ss

/-! ### numeric contracts (the arithmetic of the model is IEEE-754 binary64 by theorem, not only by comparison with hardware)

`Lemmas/F64Spec.lean` proves that the rounding the model performs after every exact rational operation is round-to-nearest, ties to even,
of IEEE-754 binary64 — nearest among all canonical doubles, overflow to infinity exactly from `2^1024 − 2^970` on — and that it is the
identity on representable values.  The contracts of `abs`, `floor`, `ceil` follow for every number (no rounding error at all), and `+ − × ÷`
on finite doubles are the correctly rounded exact results. -/

/-- canonical payloads: what every double that comes from JSON text, from hardware or from the model's own arithmetic satisfies -/
def Num.Canon : Num → Prop
  | .flt f => f.Canon
  | _ => True

theorem Num.toF64_canon (n : Num) (h : n.Canon) : n.toF64.Canon := by
  cases n with
  | pos k => exact F64.ofRat_canon _
  | neg i => exact F64.ofRat_canon _
  | flt f => exact h

/-- **abs** returns exactly the absolute value (of the double image) -/
theorem C02_abs (n : Num) (hf : n.toF64.isFinite) :
    ∃ r : F64, Builtin.pure .abs [.num n] = .ok (.num (.flt r)) ∧ r.toRat = n.toF64.toRat.abs := by
  have h := F64.abs_spec n.toF64 hf
  refine ⟨n.toF64.abs, ?_, h.2⟩
  simp [Builtin.pure, numOfF64, h.1]

/-- **floor** returns exactly the largest integer not above the number — for every finite number, however large -/
theorem C02_floor (n : Num) (hc : n.Canon) (hf : n.toF64.isFinite) :
    ∃ r : F64, Builtin.pure .floor [.num n] = .ok (.num (.flt r)) ∧ r.toRat = (n.toF64.toRat.floor : Rat) := by
  have h := F64.floor_spec n.toF64 (Num.toF64_canon n hc) hf
  refine ⟨n.toF64.floor, ?_, h.2⟩
  simp [Builtin.pure, numOfF64, h.1]

/-- **ceil** returns exactly the smallest integer not below the number -/
theorem C02_ceil (n : Num) (hc : n.Canon) (hf : n.toF64.isFinite) :
    ∃ r : F64, Builtin.pure .ceil [.num n] = .ok (.num (.flt r)) ∧ r.toRat = (n.toF64.toRat.ceil : Rat) := by
  have h := F64.ceil_spec' n.toF64 (Num.toF64_canon n hc) hf
  refine ⟨n.toF64.ceil, ?_, h.2⟩
  simp [Builtin.pure, numOfF64, h.1]

/-- **the arithmetic behind sum and avg**: each `+` and the final `÷` return the IEEE-754 round-to-nearest-even image of the exact result
(nearest canonical double, ties to even, infinity exactly on overflow) -/
theorem C02_add_ieee (a b : F64) (ha : a.isFinite) (hb : b.isFinite) : F64.IEEERounded (a.toRat + b.toRat) (F64.add a b) :=
  F64.add_ieee a b ha hb
theorem C02_div_ieee (a b : F64) (ha : a.isFinite) (hb : b.isFinite) (hz : b.isZero = false) :
    F64.IEEERounded (a.toRat / b.toRat) (F64.div a b) := F64.div_ieee a b ha hb hz
/-- integers up to 2^53 enter the arithmetic exactly -/
theorem C02_int_exact (k : Nat) (h : k ≤ 2 ^ 53) : (F64.ofNat k).isFinite ∧ (F64.ofNat k).toRat = (k : Rat) := F64.ofNat_exact k h

/-- **sum is exact on integers** whose absolute values total at most 2^53 (no rounding can occur) -/
theorem C02_sum_ints (ks : List Int) (h : (ks.map Int.natAbs).sum ≤ 2^53) :
    ∃ r : F64, Builtin.pure .sum [.arr (ks.map intVal)] = .ok (.num (.flt r)) ∧ r.toRat = ((ks.sum : Int) : Rat) := sum_ints ks h
/-- **avg of integers is the IEEE-rounded exact mean** (exactly the mean when that is an integer:
`avg_ints_exact`, `Lemmas/SumAvg.lean`) -/
theorem C02_avg_ints (ks : List Int) (hne : ks ≠ []) (h : (ks.map Int.natAbs).sum ≤ 2^53) (hl : ks.length ≤ 2^53) :
    ∃ r : F64, Builtin.pure .avg [.arr (ks.map intVal)] = .ok (.num (.flt r)) ∧
      F64.IEEERounded (((ks.sum : Int) : Rat) / (ks.length : Rat)) r := avg_ints ks hne h hl
/-- each step of `sum` over any finite numbers is one IEEE rounding of the exact partial sum -/
theorem C02_sum_step (acc : F64) (v : Val) (n : Num) (hv : v = .num n) (ha : acc.isFinite) (hn : n.toF64.isFinite) :
    F64.IEEERounded (acc.toRat + n.toF64.toRat) (F64.add acc ((valNum v).getD F64.zero)) := sum_step acc v n hv ha hn

/-! non-vacuity -/
example : Homog [.str "b", .str "a"] := Or.inl (by intro x hx; simp at hx; rcases hx with rfl | rfl <;> exact ⟨_, rfl⟩)

end JmesVerif

#print axioms JmesVerif.C02_sort
#print axioms JmesVerif.C02_sort_perm
#print axioms JmesVerif.C02_sort_sorted
#print axioms JmesVerif.C02_sort_stable
#print axioms JmesVerif.C02_sort_by
#print axioms JmesVerif.C02_max_by
#print axioms JmesVerif.C02_min_by
#print axioms JmesVerif.C02_max
#print axioms JmesVerif.C02_min
#print axioms JmesVerif.C02_merge
#print axioms JmesVerif.C02_length_codepoints
#print axioms JmesVerif.C02_reverse_codepoints
#print axioms JmesVerif.C02_keys_values
#print axioms JmesVerif.C02_to_number
#print axioms JmesVerif.C02_avg_empty
#print axioms JmesVerif.C02_avg
#print axioms JmesVerif.C02_map_length
#print axioms JmesVerif.C02_expref_once_per_element
#print axioms JmesVerif.C02_not_null
#print axioms JmesVerif.C02_contains
#print axioms JmesVerif.C02_starts_with
#print axioms JmesVerif.C02_ends_with
#print axioms JmesVerif.C02_join
#print axioms JmesVerif.C02_abs
#print axioms JmesVerif.C02_floor
#print axioms JmesVerif.C02_ceil
#print axioms JmesVerif.C02_add_ieee
#print axioms JmesVerif.C02_div_ieee
#print axioms JmesVerif.C02_int_exact
#print axioms JmesVerif.C02_sum_ints
#print axioms JmesVerif.C02_avg_ints
#print axioms JmesVerif.C02_sum_step

/-! ## All 26 builtins against one specification

`Spec/Functions.lean` states the JMESPath function specification as one relation
`Spec.Fn.result b args ev v` ("`v` is a value the specification allows `b(args)` to return", `ev` = the
evaluation of an expression reference on an element), written independently of `Builtin.pure`.
The theorems below (proofs in `Lemmas/FunctionsSpec.lean`, by cases on the argument shapes of
`Builtin.Accepts`) say that
*every* successful call of *every* builtin on *every* argument list its signature admits returns such a
value, and that a valid call of a builtin without expression reference always returns. -/
namespace JmesVerif
open Spec.Fn

/-- **C02, all builtins at once.**  For each of the 26 builtins `b`, every registry, budget and offset,
and every argument list that
* satisfies `b`'s declared signature (`hv`),
* is well formed — numbers are finite canonical doubles, objects have strictly ascending member names,
  which is what `serde_json::Number` and `BTreeMap` guarantee (`hwf`),
* makes the expression reference, where there is one, produce only finite numbers as keys (`hkeys`;
  vacuous for the 22 builtins without expression reference and for `map`),
* is not in the one deviation class `ToNumberPadded` (`to_number` of a number token padded with
  whitespace, see `C02_to_number_padded_deviation`),

a successful call returns a value that the function specification allows.  `evalRef rt fuel e x` is the
value of `interp rt fuel x e _` (`C02_evalRef_is_interp`): the reference is evaluated once per element,
against that element. -/
theorem C02_every_builtin_meets_spec (rt : Registry) (fuel : Nat) (b : Builtin) (args : List Val)
    (off : Nat) (v : Val) (off' : Nat)
    (hv : b.sig.validate args off = .ok ())
    (hwf : ∀ a ∈ args, WellFormed a)
    (hkeys : ∀ e xs, Val.expref e ∈ args → Val.arr xs ∈ args → ∀ x ∈ xs, ∀ n,
      evalRef rt fuel e x = some (.num n) → n.toF64.isFinite = true)
    (hdev : ¬ ToNumberPadded b args)
    (h : callFn rt fuel (.builtin b) args off = .ok (v, off')) :
    result b args (evalRef rt fuel) v := by
  cases fuel with
  | zero => simp [callFn] at h
  | succ n =>
  rcases callFn_shape b args off with ⟨e, hv', -⟩ | ⟨hb, -, hc⟩ | ⟨rfl, a, xs, rfl⟩ | ⟨hb', a, xs, rfl⟩
  · cases hv.symm.trans hv'
  · exact pure_meets_spec b hb args off hv hwf hdev _ _ (Comp.lift_ok_iff.1 ((hc rt n).symm.trans h)).1
  · exact spec_map rt _ a xs off v off' h
  · have hk := hkeys a xs (by simp) (by simp)
    rcases hb' with rfl | rfl | rfl
    · exact spec_sortBy rt _ xs a off hk v off' h
    · exact spec_byExtreme rt _ true xs a off hk v off' h
    · exact spec_byExtreme rt _ false xs a off hk v off' h

/-- the 22 builtins without expression reference: the body alone, no evaluator involved -/
theorem C02_every_pure_builtin_meets_spec (b : Builtin) (hb : b.usesExpref = false) (args : List Val)
    (off : Nat) (hv : b.sig.validate args off = .ok ()) (hwf : ∀ a ∈ args, WellFormed a)
    (hdev : ¬ ToNumberPadded b args) (ev : Ev) (v : Val) (h : b.pure args = .ok v) :
    result b args ev v :=
  pure_meets_spec b hb args off hv hwf hdev ev v h

/-- what `evalRef` is: the value of a run of `interp` on the element at the same budget (from any
offset), and the value of every successful run at a smaller budget -/
theorem C02_evalRef_is_interp (rt : Registry) (fuel : Nat) (e : Ast) (x v : Val) :
    (evalRef rt fuel e x = some v ↔ ∃ o', interp rt fuel x e 0 = .ok (v, o')) ∧
    (∀ f o o', f ≤ fuel → interp rt f x e o = .ok (v, o') → evalRef rt fuel e x = some v) := by
  refine ⟨?_, fun f o o' hle h => evalRef_of_interp rt h hle⟩
  unfold evalRef
  cases interp rt fuel x e 0 with
  | error err => simp
  | ok p => obtain ⟨w, o⟩ := p; simp

/-- **a valid call of a builtin without expression reference always returns**: a value, with the offset
register unchanged, or — for `abs avg ceil floor sum` only — the internal "not a finite double" error;
never a panic (`unreachable!()`, index out of bounds), a runtime error, or an exhausted budget
(cf. `C05_builtins_no_unreachable`, `C06_no_unreachable`) -/
theorem C02_valid_call_outcomes (rt : Registry) (fuel : Nat) (b : Builtin) (args : List Val) (off : Nat)
    (hv : b.sig.validate args off = .ok ()) (hb : b.usesExpref = false) :
    (∃ v, callFn rt (fuel + 1) (.builtin b) args off = .ok (v, off)) ∨
    (∃ msg, callFn rt (fuel + 1) (.builtin b) args off = .error (.internal msg) ∧
      b ∈ [Builtin.abs, .avg, .ceil, .floor, .sum]) := by
  rw [callFn_pure rt fuel b args off hb, hv]
  simp only
  cases hp : b.pure args with
  | ok w => exact .inl ⟨w, rfl⟩
  | error e =>
    obtain ⟨⟨msg, rfl⟩, hm⟩ := pure_error_is_internal b args off hv hb e hp
    exact .inr ⟨msg, rfl, hm⟩

/-- on well-formed arguments only `sum` and `avg` can end in that error (a partial sum or the quotient
left the double range: finding F14) -/
theorem C02_valid_call_outcomes_wellformed (rt : Registry) (fuel : Nat) (b : Builtin) (args : List Val)
    (off : Nat) (hv : b.sig.validate args off = .ok ()) (hb : b.usesExpref = false)
    (hwf : ∀ a ∈ args, WellFormed a) :
    (∃ v, callFn rt (fuel + 1) (.builtin b) args off = .ok (v, off)) ∨
    (∃ msg, callFn rt (fuel + 1) (.builtin b) args off = .error (.internal msg) ∧
      b ∈ [Builtin.avg, .sum]) := by
  rcases C02_valid_call_outcomes rt fuel b args off hv hb with h | ⟨msg, h, hm⟩
  · exact .inl h
  · refine .inr ⟨msg, h, ?_⟩
    rw [callFn_pure rt fuel b args off hb, hv] at h
    have ok : ∀ f m, f.isFinite = true → b.pure args = numOfF64 f m → False := by
      intro f m hf hp
      rw [hp, numOfF64, if_pos hf] at h
      cases h
    have gen : ∀ n, args = [.num n] → Genuine n := fun n he => hwf (.num n) (he ▸ .head _)
    cases Builtin.accepts_of_validate hv
    case abs n => exact (ok _ _ (F64.abs_spec _ (gen n rfl).1).1 rfl).elim
    case ceil n => exact (ok _ _ (F64.ceil_spec' _ (gen n rfl).2 (gen n rfl).1).1 rfl).elim
    case floor n => exact (ok _ _ (F64.floor_spec _ (gen n rfl).2 (gen n rfl).1).1 rfl).elim
    case avg | sum => decide
    all_goals exact absurd hm (by decide)

/-- **machine-checked deviation** (why `hdev` is there): `to_number(" 1 ")` returns `1`; `" 1 "` does
not match `json-number`, so the specification gives `null` -/
theorem C02_to_number_padded_deviation :
    Builtin.pure .toNumber [.str " 1 "] = .ok (.num (.pos 1)) ∧
    ToNumberPadded .toNumber [.str " 1 "] ∧
    ¬ toNumberSpec [.str " 1 "] (.num (.pos 1)) := by
  refine ⟨rfl, ⟨rfl, " 1 ", .pos 1, rfl, rfl, ' ', by decide, .inl rfl⟩, ?_⟩
  rintro (⟨n, ⟨_, hws⟩, _⟩ | ⟨_, h⟩)
  · exact hws ' ' (by decide) (.inl rfl)
  · cases h

/-! ### non-vacuity: concrete calls that meet all hypotheses -/

theorem genuine_pos (k : Nat) (h : k ≤ 2 ^ 53) : Genuine (.pos k) :=
  ⟨(F64.ofNat_exact k h).1, F64.ofRat_canon _⟩

/-- `sort([3, 1, 2])` -/
example : ∃ v, callFn [] 1 (.builtin .sort) [.arr [.num (.pos 3), .num (.pos 1), .num (.pos 2)]] 0 = .ok (v, 0) ∧
    result .sort [.arr [.num (.pos 3), .num (.pos 1), .num (.pos 2)]] (evalRef [] 1) v := by
  have hv : Builtin.sort.sig.validate [.arr [.num (.pos 3), .num (.pos 1), .num (.pos 2)]] 0 = .ok () :=
    (validate_one _ _ _).2 ⟨_, rfl, by simp [ArgT.isValid, anyValid, allValid, arrStr, arrNum, Val.type]⟩
  have hwf : ∀ a ∈ [Val.arr [.num (.pos 3), .num (.pos 1), .num (.pos 2)]], WellFormed a := by
    intro a ha
    simp only [List.mem_singleton] at ha
    subst ha
    intro n hn
    simp only [List.mem_cons, Val.num.injEq, List.not_mem_nil, or_false] at hn
    rcases hn with rfl | rfl | rfl <;> exact genuine_pos _ (by decide)
  rcases C02_valid_call_outcomes [] 0 .sort _ 0 hv rfl with ⟨v, h⟩ | ⟨msg, _, hm⟩
  · exact ⟨v, h, C02_every_builtin_meets_spec [] 1 .sort _ 0 v 0 hv hwf (by simp)
      (by rintro ⟨h, _⟩; cases h) h⟩
  · simp at hm

/-- `merge({"a": 1, "b": 2}, {"b": 3})` -/
example : ∃ v, callFn [] 1 (.builtin .merge)
      [.obj [("a", .num (.pos 1)), ("b", .num (.pos 2))], .obj [("b", .num (.pos 3))]] 0 = .ok (v, 0) ∧
    result .merge [.obj [("a", .num (.pos 1)), ("b", .num (.pos 2))], .obj [("b", .num (.pos 3))]]
      (evalRef [] 1) v := by
  have hv : Builtin.merge.sig.validate
      [.obj [("a", .num (.pos 1)), ("b", .num (.pos 2))], .obj [("b", .num (.pos 3))]] 0 = .ok () :=
    (validate_var _ _ _ _).2 ⟨_, _, rfl, by simp [ArgT.isValid, Val.type], by simp [ArgT.isValid, Val.type]⟩
  have hwf : ∀ a ∈ [Val.obj [("a", .num (.pos 1)), ("b", .num (.pos 2))], .obj [("b", .num (.pos 3))]],
      WellFormed a := by
    intro a ha
    simp only [List.mem_cons, List.not_mem_nil, or_false] at ha
    rcases ha with rfl | rfl
    · show AscendingKeys _
      simp only [AscendingKeys, List.pairwise_cons, List.mem_singleton, List.not_mem_nil]
      refine ⟨fun p hp => ?_, by simp⟩
      subst hp
      decide
    · show AscendingKeys _
      simp [AscendingKeys]
  rcases C02_valid_call_outcomes [] 0 .merge _ 0 hv rfl with ⟨v, h⟩ | ⟨msg, _, hm⟩
  · exact ⟨v, h, C02_every_builtin_meets_spec [] 1 .merge _ 0 v 0 hv hwf (by simp)
      (by rintro ⟨h, _⟩; cases h) h⟩
  · simp at hm

/-- `max_by([{"a": "x"}, {"a": "y"}], &a)` returns `{"a": "y"}`, and the specification allows it -/
example : callFn [] 4 (.builtin .maxBy)
      [.arr [.obj [("a", .str "x")], .obj [("a", .str "y")]], .expref (.field 0 "a")] 0
      = .ok (.obj [("a", .str "y")], 0) ∧
    result .maxBy [.arr [.obj [("a", .str "x")], .obj [("a", .str "y")]], .expref (.field 0 "a")]
      (evalRef [] 4) (.obj [("a", .str "y")]) := by
  have hc : compare "y" "x" = Ordering.gt := by decide
  have h : callFn [] 4 (.builtin .maxBy)
      [.arr [.obj [("a", .str "x")], .obj [("a", .str "y")]], .expref (.field 0 "a")] 0
      = .ok (.obj [("a", .str "y")], 0) := by
    rw [callFn_maxBy]
    simp [byExtreme, keysTyped, interp, Val.type, Val.getField, Val.lookup, Val.cmp, hc]
  refine ⟨h, C02_every_builtin_meets_spec [] 4 .maxBy _ 0 _ 0 ?_ ?_ ?_ (by rintro ⟨h, _⟩; cases h) h⟩
  · exact validate_arr_expref _ _ _
  · intro a ha
    simp only [List.mem_cons, List.not_mem_nil, or_false] at ha
    rcases ha with rfl | rfl
    · intro n hn; simp at hn
    · trivial
  · intro e xs he hxs x hx n hn
    simp only [List.mem_cons, Val.expref.injEq, List.not_mem_nil, or_false, reduceCtorEq, false_or] at he
    simp only [List.mem_cons, Val.arr.injEq, List.not_mem_nil, or_false, reduceCtorEq, or_false] at hxs
    subst he; subst hxs
    simp only [List.mem_cons, List.not_mem_nil, or_false] at hx
    rcases hx with rfl | rfl <;> simp [evalRef, interp, Val.getField, Val.lookup] at hn

/-! ### the specification is not vacuous either: it rejects wrong answers -/

/-- an unsorted answer is not a `sort` -/
example (ev : Ev) : ¬ result .sort [.arr [.str "b", .str "a"]] ev (.arr [.str "b", .str "a"]) := by
  rintro ⟨ys, hy, _, hs, _⟩
  cases hy
  simp only [List.pairwise_cons, List.mem_singleton, forall_eq] at hs
  exact absurd hs.1 (show ¬ ("b".toList ≤ "a".toList) by decide)

/-- a smaller element is not a `max` -/
example (ev : Ev) : ¬ result .max [.arr [.str "a", .str "b"]] ev (.str "a") := by
  rintro (⟨h, _⟩ | ⟨_, h⟩)
  · cases h
  · exact absurd (h (.str "b") (by simp)) (show ¬ ("b".toList ≤ "a".toList) by decide)

/-- `map` may not drop an element (as a projection would drop a `null`) -/
example (ev : Ev) (e : Ast) (x : Val) : ¬ result .map [.expref e, .arr [x]] ev (.arr []) := by
  rintro ⟨ys, hy, h⟩
  cases hy
  simp at h

/-- a left-biased `merge` is rejected -/
example (ev : Ev) : ¬ result .merge [.obj [("a", .null)], .obj [("a", .bool true)]] ev (.obj [("a", .null)]) := by
  rintro ⟨m, hm, _, h⟩
  cases hm
  rcases h "a" with ⟨pre, kvs, suf, x, he, hk, hr, hn⟩ | ⟨hr, _⟩
  · simp only [member, Val.lookup, if_true, Option.some.injEq] at hr
    subst hr
    rcases pre with _ | ⟨p, _ | ⟨q, pre⟩⟩
    · simp only [List.nil_append, List.cons.injEq, Val.obj.injEq] at he
      obtain ⟨_, rfl⟩ := he
      have := hn [("a", .bool true)] (by simp)
      simp [member, Val.lookup] at this
    · simp only [List.cons_append, List.nil_append, List.cons.injEq, Val.obj.injEq] at he
      obtain ⟨_, rfl, _⟩ := he
      simp [member, Val.lookup] at hk
    · have := congrArg List.length he
      simp at this
  · simp [member, Val.lookup] at hr

end JmesVerif

#print axioms JmesVerif.C02_every_builtin_meets_spec
#print axioms JmesVerif.C02_every_pure_builtin_meets_spec
#print axioms JmesVerif.C02_evalRef_is_interp
#print axioms JmesVerif.C02_valid_call_outcomes
#print axioms JmesVerif.C02_valid_call_outcomes_wellformed
#print axioms JmesVerif.C02_to_number_padded_deviation
