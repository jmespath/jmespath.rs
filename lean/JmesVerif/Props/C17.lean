import JmesVerif.Lemmas.Convert
import JmesVerif.Generated.Features
/-!
# C17 — Cargo features change representation, not meaning

* `sync` only swaps the `Rcvar` alias (`Rc` ↔ `Arc`) and `specialized` only adds fast-path
  `ToJmespath` impls — read off the source on every run (`Generated/Features.lean`); checked
  here: the feature list (`C17_features`), the two `sync` sites (`C17_sync_sites`), and that every
  site, `specialized` ones included, is in lib.rs (`C17_all_sites_in_lib`);
* the fast-path conversions produce the same value as the generic serde path for every
  JSON-representable input of the specially handled types (`C17_specialized_eq_generic`);
* `compile`/`search` themselves contain no feature-dependent code (no `cfg` site outside the
  conversions), so their outcomes are those of the one model; the `features` stream runs the
  `eval`, `parse`, `serde` and `tojm` streams under all four builds and compares.
Non-finite `f32`/`f64` inputs differ (generic → null, specialised → error) but are not
JSON-representable: outside the quantifier, reported in the evidence only.
-/
namespace JmesVerif

theorem C17_specialized_eq_generic (i : Input) (h : i.representable) : convSpecialized i = convGeneric i := by
  cases i with
  | value j => simp [convSpecialized, convGeneric, Input.image, generic_value j h]
  | lib v => simp [convSpecialized, convGeneric, Input.image, generic_variable v h.1 h.2.1 h.2.2]
  | string s => rfl
  | int v => rfl
  | f32 x =>
    have hx : x.isFinite = true := h
    simp [convSpecialized, convGeneric, Input.image, svToVariable, valOfF64, hx]
  | f64 x =>
    have hx : x.isFinite = true := h
    simp [convSpecialized, convGeneric, Input.image, svToVariable, valOfF64, hx]
  | bool b => rfl
  | unit => rfl

/-- the crate has exactly the two features, neither enabling anything else -/
theorem C17_features : Generated.features = [("sync", []), ("specialized", [])] := rfl

/-- every feature-dependent item lives in lib.rs (none in lexer, parser, interpreter, functions, variable, runtime, errors) -/
theorem C17_all_sites_in_lib : ∀ s ∈ Generated.cfgSites, s.1 = "lib.rs" := by
  -- stated through `List.all` so that the number and order of the sites do not matter to the proof
  have h : Generated.cfgSites.all (fun s => s.1 == "lib.rs") = true := by decide
  intro s hs
  have := List.all_eq_true.mp h s hs
  simpa using this

/-- the `sync` feature guards exactly the two definitions of the `Rcvar` alias -/
theorem C17_sync_sites :
    Generated.cfgSites.filter (fun s => s.2.1 == "sync") =
      [("lib.rs", "sync", true, "pub type Rcvar = std::rc::Rc<Variable>;"),
       ("lib.rs", "sync", false, "pub type Rcvar = std::sync::Arc<Variable>;")] := rfl

/-! non-vacuity -/
example : (Input.f64 (.fin false 4503599627370496 (-52))).representable := by simp [Input.representable, F64.isFinite]
example : convSpecialized (.f64 .nan) = none ∧ convGeneric (.f64 .nan) = some .null := by
  simp [convSpecialized, convGeneric, Input.image, svToVariable, valOfF64, F64.isFinite]

end JmesVerif

#print axioms JmesVerif.C17_specialized_eq_generic
#print axioms JmesVerif.C17_features
#print axioms JmesVerif.C17_all_sites_in_lib
#print axioms JmesVerif.C17_sync_sites
