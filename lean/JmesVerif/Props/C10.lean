import JmesVerif.Lemmas.Compare
import JmesVerif.Lemmas.CodeEquiv
import JmesVerif.Lemmas.ValidEquiv
/-!
# C10 — equality and ordering operators obey their algebraic contract

Model: `Model/Compare.lean` (`float_eq`, `impl PartialEq`, `impl Ord`, `Variable::compare`).
Numbers are compared through their double image (`Number::as_f64`), `==` with the tolerant
`float_eq`, `< <= > >=` exactly.  "Well separated" (`WellSeparated`) means the tolerant equality
coincides with exact equality of the two doubles; the trichotomy and `≤ ↔ < ∨ ==` laws are stated
for such pairs, as the property does.
-/
namespace JmesVerif

/-! ### well-formed values: every stored double is finite (what `serde_json::Number` guarantees) -/
def Num.WF : Num → Prop
  | .flt f => f.isFinite = true
  | _ => True

mutual
def Val.WF : Val → Prop
  | .num n => n.WF
  | .arr xs => valsWF xs
  | .obj kvs => kvsWF kvs
  | .expref a => a.WF
  | _ => True
def valsWF : List Val → Prop
  | [] => True
  | v :: vs => v.WF ∧ valsWF vs
def kvsWF : List (String × Val) → Prop
  | [] => True
  | (_, v) :: r => v.WF ∧ kvsWF r
def Ast.WF : Ast → Prop
  | .comparison _ _ l r | .condition _ l r | .projection _ l r | .and _ l r | .or _ l r
  | .subexpr _ l r => l.WF ∧ r.WF
  | .expref _ a | .flatten _ a | .not _ a | .objectValues _ a => a.WF
  | .function _ _ as | .multiList _ as => astsWF as
  | .multiHash _ kvs => kasWF kvs
  | .literal _ v => v.WF
  | _ => True
def astsWF : List Ast → Prop
  | [] => True
  | a :: as => a.WF ∧ astsWF as
def kasWF : List (String × Ast) → Prop
  | [] => True
  | (_, a) :: r => a.WF ∧ kasWF r
end

theorem ofRat_ne_nan (q : Rat) : F64.ofRat q ≠ .nan := by
  unfold F64.ofRat
  simp only []
  split <;> simp

theorem Num.toF64_ne_nan (n : Num) (h : n.WF) : n.toF64 ≠ .nan := by
  cases n with
  | pos n => exact ofRat_ne_nan _
  | neg i => exact ofRat_ne_nan _
  | flt f => cases f <;> simp_all [Num.WF, Num.toF64, F64.isFinite]

/-- One direction of symmetry for the six mutually recursive equality functions at once, along their
common recursion: on two nodes of the same kind the recursive calls are symmetric by hypothesis and
the remaining fields are compared by symmetric tests; any other pair is unequal. -/
theorem beq_symm_imp :
    (∀ a b : Val, Val.beq a b = true → Val.beq b a = true) ∧
    (∀ a b : Ast, Ast.beq a b = true → Ast.beq b a = true) ∧
    (∀ a b : List (String × Ast), kasBeq a b = true → kasBeq b a = true) ∧
    (∀ a b : List Ast, astsBeq a b = true → astsBeq b a = true) ∧
    (∀ a b : List (String × Val), kvsBeq a b = true → kvsBeq b a = true) ∧
    (∀ a b : List Val, valsBeq a b = true → valsBeq b a = true) := by
  apply Val.beq.mutual_induct
  all_goals
    intros
    rename_i h
    simp only [Val.beq, Ast.beq, kasBeq, astsBeq, kvsBeq, valsBeq] at h ⊢
  all_goals grind [floatEq_comm]

theorem comm_of_symm_imp {α : Type} {f : α → α → Bool} (h : ∀ a b, f a b = true → f b a = true)
    (a b : α) : f a b = f b a :=
  Bool.eq_iff_iff.2 ⟨h a b, h b a⟩

theorem Val.beq_comm : ∀ a b : Val, Val.beq a b = Val.beq b a :=
  comm_of_symm_imp beq_symm_imp.1
theorem Ast.beq_comm : ∀ a b : Ast, Ast.beq a b = Ast.beq b a :=
  comm_of_symm_imp beq_symm_imp.2.1
theorem kasBeq_comm : ∀ a b : List (String × Ast), kasBeq a b = kasBeq b a :=
  comm_of_symm_imp beq_symm_imp.2.2.1
theorem astsBeq_comm : ∀ a b : List Ast, astsBeq a b = astsBeq b a :=
  comm_of_symm_imp beq_symm_imp.2.2.2.1
theorem kvsBeq_comm : ∀ a b : List (String × Val), kvsBeq a b = kvsBeq b a :=
  comm_of_symm_imp beq_symm_imp.2.2.2.2.1
theorem valsBeq_comm : ∀ a b : List Val, valsBeq a b = valsBeq b a :=
  comm_of_symm_imp beq_symm_imp.2.2.2.2.2

mutual
theorem Val.beq_refl : ∀ a : Val, a.WF → Val.beq a a = true
  | .null, _ => by simp [Val.beq]
  | .bool x, _ => by simp [Val.beq]
  | .num x, h => by simp [Val.beq, floatEq_self _ (Num.toF64_ne_nan x h)]
  | .str x, _ => by simp [Val.beq]
  | .arr xs, h => by simp [Val.beq, valsBeq_refl xs h]
  | .obj xs, h => by simp [Val.beq, kvsBeq_refl xs h]
  | .expref x, h => by simp [Val.beq, Ast.beq_refl x h]
theorem valsBeq_refl : ∀ a : List Val, valsWF a → valsBeq a a = true
  | [], _ => by simp [valsBeq]
  | x :: xs, h => by simp [valsBeq, Val.beq_refl x h.1, valsBeq_refl xs h.2]
theorem kvsBeq_refl : ∀ a : List (String × Val), kvsWF a → kvsBeq a a = true
  | [], _ => by simp [kvsBeq]
  | (k, x) :: xs, h => by simp [kvsBeq, Val.beq_refl x h.1, kvsBeq_refl xs h.2]
theorem Ast.beq_refl : ∀ a : Ast, a.WF → Ast.beq a a = true
  | .comparison o c l r, h => by simp [Ast.beq, Ast.beq_refl l h.1, Ast.beq_refl r h.2]
  | .condition o l r, h => by simp [Ast.beq, Ast.beq_refl l h.1, Ast.beq_refl r h.2]
  | .identity o, _ => by simp [Ast.beq]
  | .expref o a, h => by simp [Ast.beq, Ast.beq_refl a h]
  | .flatten o a, h => by simp [Ast.beq, Ast.beq_refl a h]
  | .function o n as, h => by simp [Ast.beq, astsBeq_refl as h]
  | .field o n, _ => by simp [Ast.beq]
  | .index o i, _ => by simp [Ast.beq]
  | .literal o v, h => by simp [Ast.beq, Val.beq_refl v h]
  | .multiList o as, h => by simp [Ast.beq, astsBeq_refl as h]
  | .multiHash o kvs, h => by simp [Ast.beq, kasBeq_refl kvs h]
  | .not o a, h => by simp [Ast.beq, Ast.beq_refl a h]
  | .projection o l r, h => by simp [Ast.beq, Ast.beq_refl l h.1, Ast.beq_refl r h.2]
  | .objectValues o a, h => by simp [Ast.beq, Ast.beq_refl a h]
  | .and o l r, h => by simp [Ast.beq, Ast.beq_refl l h.1, Ast.beq_refl r h.2]
  | .or o l r, h => by simp [Ast.beq, Ast.beq_refl l h.1, Ast.beq_refl r h.2]
  | .slice o x y z, _ => by simp [Ast.beq]
  | .subexpr o l r, h => by simp [Ast.beq, Ast.beq_refl l h.1, Ast.beq_refl r h.2]
theorem astsBeq_refl : ∀ a : List Ast, astsWF a → astsBeq a a = true
  | [], _ => by simp [astsBeq]
  | x :: xs, h => by simp [astsBeq, Ast.beq_refl x h.1, astsBeq_refl xs h.2]
theorem kasBeq_refl : ∀ a : List (String × Ast), kasWF a → kasBeq a a = true
  | [], _ => by simp [kasBeq]
  | (k, x) :: xs, h => by simp [kasBeq, Ast.beq_refl x h.1, kasBeq_refl xs h.2]
end

/-- **`==` is symmetric** (all values, incl. nested containers and mixed number spellings). -/
theorem C10_eq_symm (a b : Val) : Val.compare .eq a b = Val.compare .eq b a := by
  simp [Val.compare, Val.beq_comm a b]

theorem C10_eq_refl (a : Val) (h : a.WF) : Val.compare .eq a a = some true := by
  simp [Val.compare, Val.beq_refl a h]

theorem C10_ne_is_not_eq (a b : Val) :
    Val.compare .ne a b = (Val.compare .eq a b).map (fun r => !r) := by
  simp [Val.compare]

theorem Val.type_eq_of_beq (a b : Val) : Val.beq a b = true → a.type = b.type := by
  fun_cases Val.beq a b
  all_goals first | exact fun _ => rfl | exact nofun

/-- **values of different types are never equal** -/
theorem C10_types_differ_ne (a b : Val) (h : a.type ≠ b.type) : Val.compare .eq a b = some false := by
  have : Val.beq a b = false := Bool.eq_false_iff.2 fun hb => h (Val.type_eq_of_beq a b hb)
  simp [Val.compare, this]

/-- **ordering operators yield a boolean exactly when both operands are numbers, else null** -/
theorem C10_ord_defined_iff_numbers (c : Cmp) (hc : c ≠ .eq ∧ c ≠ .ne) (a b : Val) :
    (Val.compare c a b).isSome = (a.type == .number && b.type == .number) := by
  have gate : (match a, b with | .num _, .num _ => true | _, _ => false) =
      (a.type == .number && b.type == .number) := by
    cases a <;> first | rfl | (cases b <;> rfl)
  rw [← gate]
  unfold Val.compare
  split <;> cases c <;> simp_all

/-- the specification's equality: same type; numbers by (tolerant) numeric value; arrays
element-wise in order; objects member by member, the same key at the same position (equality of key
sets and member values only when both member lists are sorted by key) -/
inductive DeepEq : Val → Val → Prop
  | null : DeepEq .null .null
  | bool (b : Bool) : DeepEq (.bool b) (.bool b)
  | num (x y : Num) : floatEq x.toF64 y.toF64 = true → DeepEq (.num x) (.num y)
  | str (s : String) : DeepEq (.str s) (.str s)
  | arrNil : DeepEq (.arr []) (.arr [])
  | arrCons (x y : Val) (xs ys : List Val) :
      DeepEq x y → DeepEq (.arr xs) (.arr ys) → DeepEq (.arr (x :: xs)) (.arr (y :: ys))
  | objNil : DeepEq (.obj []) (.obj [])
  | objCons (k : String) (x y : Val) (xs ys : List (String × Val)) :
      DeepEq x y → DeepEq (.obj xs) (.obj ys) → DeepEq (.obj ((k, x) :: xs)) (.obj ((k, y) :: ys))

mutual
theorem beq_imp_deepEq : ∀ a b : Val, a.isJson = true → Val.beq a b = true → DeepEq a b
  | .null, b, _, h => by cases b <;> simp_all [Val.beq]; exact .null
  | .bool x, b, _, h => by
    cases b <;> simp_all [Val.beq]
    subst h; exact .bool _
  | .num x, b, _, h => by
    cases b <;> simp_all [Val.beq]
    exact .num _ _ h
  | .str x, b, _, h => by
    cases b <;> simp_all [Val.beq]
    exact .str _
  | .arr xs, b, hj, h => by
    cases b <;> simp_all [Val.beq]
    exact vals_imp xs _ (by simpa [Val.isJson] using hj) h
  | .obj xs, b, hj, h => by
    cases b <;> simp_all [Val.beq]
    exact kvs_imp xs _ (by simpa [Val.isJson] using hj) h
  | .expref x, b, hj, _ => by simp [Val.isJson] at hj
theorem vals_imp : ∀ a b : List Val, valsJson a = true → valsBeq a b = true → DeepEq (.arr a) (.arr b)
  | [], b, _, h => by cases b <;> simp_all [valsBeq]; exact .arrNil
  | x :: xs, b, hj, h => by
    cases b with
    | nil => simp [valsBeq] at h
    | cons y ys =>
      simp [valsBeq] at h
      simp [valsJson] at hj
      exact .arrCons _ _ _ _ (beq_imp_deepEq x y hj.1 h.1) (vals_imp xs ys hj.2 h.2)
theorem kvs_imp : ∀ a b : List (String × Val), kvsJson a = true → kvsBeq a b = true → DeepEq (.obj a) (.obj b)
  | [], b, _, h => by cases b <;> simp_all [kvsBeq]; exact .objNil
  | (k, x) :: xs, b, hj, h => by
    cases b with
    | nil => simp [kvsBeq] at h
    | cons y ys =>
      obtain ⟨k', y⟩ := y
      simp [kvsBeq] at h
      simp [kvsJson] at hj
      obtain ⟨⟨hk, hx⟩, hr⟩ := h
      subst hk
      exact .objCons _ _ _ _ _ (beq_imp_deepEq x y hj.1 hx) (kvs_imp xs ys hj.2 hr)
end

theorem deepEq_imp_beq {a b : Val} (h : DeepEq a b) : Val.beq a b = true := by
  induction h with
  | null => simp [Val.beq]
  | bool b => simp [Val.beq]
  | num x y h => simp [Val.beq, h]
  | str s => simp [Val.beq]
  | arrNil => simp [Val.beq, valsBeq]
  | arrCons x y xs ys _ _ ih1 ih2 => simp [Val.beq, valsBeq] at ih2 ⊢; exact ⟨ih1, ih2⟩
  | objNil => simp [Val.beq, kvsBeq]
  | objCons k x y xs ys _ _ ih1 ih2 => simp [Val.beq, kvsBeq] at ih2 ⊢; exact ⟨ih1, ih2⟩

/-- **`==` is deep structural equality on JSON values** -/
theorem C10_eq_iff_deepEq (a b : Val) (ha : a.isJson = true) :
    Val.compare .eq a b = some true ↔ DeepEq a b := by
  simp only [Val.compare]
  constructor
  · intro h
    simp at h
    exact beq_imp_deepEq a b ha h
  · intro h
    simp [deepEq_imp_beq h]

def BothFinite (x y : Num) : Prop := x.toF64.isFinite = true ∧ y.toF64.isFinite = true

theorem cmp_num (x y : Num) (h : BothFinite x y) :
    Val.cmp (.num x) (.num y) =
      if x.toF64.toRat < y.toF64.toRat then .lt else if y.toF64.toRat < x.toF64.toRat then .gt else .eq := by
  obtain ⟨hx, hy⟩ := h
  simp only [Val.cmp, F64.flt_spec _ _ hx hy, F64.flt_spec _ _ hy hx, F64.feq_spec _ _ hx hy]
  by_cases h1 : x.toF64.toRat < y.toF64.toRat
  · simp [h1]
  · by_cases h2 : y.toF64.toRat < x.toF64.toRat
    · simp [h1, h2]
    · have : x.toF64.toRat = y.toF64.toRat := by grind
      simp [this]

/-- **`< <= > >=` agree with the numeric order** of the operands' values -/
theorem C10_order_consistent (x y : Num) (h : BothFinite x y) :
    Val.compare .lt (.num x) (.num y) = some (decide (x.toF64.toRat < y.toF64.toRat)) ∧
    Val.compare .le (.num x) (.num y) = some (decide (x.toF64.toRat ≤ y.toF64.toRat)) ∧
    Val.compare .gt (.num x) (.num y) = some (decide (y.toF64.toRat < x.toF64.toRat)) ∧
    Val.compare .ge (.num x) (.num y) = some (decide (y.toF64.toRat ≤ x.toF64.toRat)) := by
  simp only [Val.compare, cmp_num x y h]
  grind

theorem Val.compare_eq_num (x y : Num) :
    Val.compare .eq (.num x) (.num y) = some (floatEq x.toF64 y.toF64) := by
  simp [Val.compare, Val.beq]

/-- the tolerant equality of the pair coincides with exact equality of the two doubles -/
def WellSeparated (x y : Num) : Prop :=
  floatEq x.toF64 y.toF64 = decide (x.toF64.toRat = y.toF64.toRat)

/-- **trichotomy**: for well-separated numbers exactly one of `a<b`, `a==b`, `a>b` holds -/
theorem C10_trichotomy (x y : Num) (h : BothFinite x y) (hw : WellSeparated x y) :
    ∃ l e g : Bool,
      Val.compare .lt (.num x) (.num y) = some l ∧ Val.compare .eq (.num x) (.num y) = some e ∧
      Val.compare .gt (.num x) (.num y) = some g ∧
      ((l = true ∧ e = false ∧ g = false) ∨ (l = false ∧ e = true ∧ g = false) ∨
       (l = false ∧ e = false ∧ g = true)) := by
  obtain ⟨hlt, _, hgt, _⟩ := C10_order_consistent x y h
  refine ⟨_, _, _, hlt, Val.compare_eq_num x y, hgt, ?_⟩
  unfold WellSeparated at hw
  grind

/-- **`a <= b` iff `a < b` or `a == b`** (well-separated numbers) -/
theorem C10_le_iff_lt_or_eq (x y : Num) (h : BothFinite x y) (hw : WellSeparated x y) :
    ∃ l e : Bool, Val.compare .lt (.num x) (.num y) = some l ∧ Val.compare .eq (.num x) (.num y) = some e ∧
      Val.compare .le (.num x) (.num y) = some (l || e) := by
  obtain ⟨hlt, hle, _, _⟩ := C10_order_consistent x y h
  refine ⟨_, _, hlt, Val.compare_eq_num x y, ?_⟩
  unfold WellSeparated at hw
  rw [hle, hw, ← Bool.decide_or, decide_eq_decide.2 Rat.le_iff_lt_or_eq]

example : Val.compare .lt (.num (.pos 1)) (.str "a") = none := by rfl
example : Val.compare .eq (.arr [.str "a"]) (.arr [.str "a", .null]) = some false := by
  simp [Val.compare, Val.beq, valsBeq]
example : (Val.arr [.str "a", .obj [("k", .null)]]).WF ∧ (Val.arr [.str "a"]).isJson = true := by
  simp [Val.WF, valsWF, kvsWF, Val.isJson, valsJson]
example : BothFinite (.flt (.fin false 4503599627370496 (-52))) (.flt (.fin false 4503599627370496 (-51))) := by
  simp [BothFinite, Num.toF64, F64.isFinite]


/-! ### the operator gate of `Variable::compare` as re-translated from variable.rs on every run

which comparators require two numbers, and which Rust operator each comparator applies, are read off the source;
the translated gate composed with the value-level relation is the model's `Val.compare`. -/
open Generated.Code in
theorem C10_translated_compare_gate (c : Cmp) (a b : Val) :
    Val.compare c a b = (Generated.Code.compare (cmpOf c) (isNum a) (isNum b)).map (relEval a b) :=
  gen_compare_gate_eq c a b


/-! ### `float_eq`, `PartialEq` and `Ord` for `Variable` as re-translated from variable.rs on every run

the tolerant number equality, the type-gated deep equality and the internal total order are read off the source (`Generated/ValidCode.lean`)
and equal the model's `floatEq`, `Val.beq` and `Val.cmp` that the theorems above are about. -/
open Generated.ValidCode in
theorem C10_translated_equality :
    (∀ a b : F64, float_eq a b = floatEq a b) ∧ (∀ a b : Val, variable_eq a b = Val.beq a b) ∧ (∀ a b : Val, variable_cmp a b = Val.cmp a b) :=
  ⟨gen_float_eq_eq, gen_eq_eq, gen_cmp_eq⟩

end JmesVerif

#print axioms JmesVerif.C10_eq_symm
#print axioms JmesVerif.C10_eq_refl
#print axioms JmesVerif.C10_ne_is_not_eq
#print axioms JmesVerif.C10_types_differ_ne
#print axioms JmesVerif.C10_ord_defined_iff_numbers
#print axioms JmesVerif.C10_eq_iff_deepEq
#print axioms JmesVerif.C10_order_consistent
#print axioms JmesVerif.C10_trichotomy
#print axioms JmesVerif.C10_le_iff_lt_or_eq
#print axioms JmesVerif.C10_translated_compare_gate
#print axioms JmesVerif.C10_translated_equality
