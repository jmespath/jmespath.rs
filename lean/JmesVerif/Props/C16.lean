import JmesVerif.Model.Threads
/-!
# C16 — with the sync feature, compiled expressions are safely shareable across threads

Model: `Model/Threads.lean` — threads take atomic steps over shared immutable expressions /
documents and the once-cell holding the default runtime.

* `C16_cell_value` — after any one step from a state whose cell is empty or holds the builtin-complete
  runtime, the cell is again empty or holds that runtime (the first-use race has one possible outcome);
* `C16_step_schedule_independent` — the result of a step does not depend on the state it is taken in;
* `C16_schedule_independence` — for every schedule and every set of thread programs, each thread
  obtains, in order, exactly the results its program yields when run alone.
**Partial by nature**: that steps are atomic and race-free is what Rust's `Send`/`Sync`, `Arc` and
`lazy_static` provide; the harness contains the `Send + Sync` obligations (checked by rustc on
every run) and the `threads` stream exercises real interleavings, including the first use.
-/
namespace JmesVerif

/-- the cell is either untouched or holds the default registry -/
def CellOk (s : TState) : Prop := s.cell = none ∨ s.cell = some Registry.default

theorem deref_value (s : TState) (h : CellOk s) : s.deref.2 = Registry.default ∧ CellOk s.deref.1 := by
  rcases h with h | h <;> simp [TState.deref, h, CellOk]

/-- one step: same output as running alone, and the cell invariant is kept -/
theorem C16_step_schedule_independent (fuel : Nat) (s : TState) (h : CellOk s) (op : TOp) :
    (tstep fuel s op).2 = soloResult fuel op ∧ CellOk (tstep fuel s op).1 := by
  cases op with
  | searchShared a doc => exact ⟨rfl, h⟩
  | compileSearch text doc =>
    have hd := deref_value s h
    simp only [tstep, soloResult]
    refine ⟨?_, hd.2⟩
    rw [hd.1]
    simp [TState.init, TState.deref]

/-- the first-use race has a single outcome -/
theorem C16_cell_value (fuel : Nat) (s : TState) (h : CellOk s) (op : TOp) :
    (tstep fuel s op).1.cell = none ∨ (tstep fuel s op).1.cell = some Registry.default :=
  (C16_step_schedule_independent fuel s h op).2

/-- the outputs thread `t` receives, in order -/
def outputsOf (t : Nat) (trace : List (Nat × QueryOut)) : List QueryOut :=
  (trace.filter (fun p => p.1 = t)).map (·.2)

theorem outputsOf_cons (t u : Nat) (out : QueryOut) (tr : List (Nat × QueryOut)) :
    outputsOf t ((u, out) :: tr) = if u = t then out :: outputsOf t tr else outputsOf t tr := by
  by_cases h : u = t <;> simp [outputsOf, List.filter_cons, h]

/-- **Schedule independence.**  Under every schedule, the outputs each thread observes are the
solo results of the operations of its program that were executed, in program order. -/
theorem C16_schedule_independence (fuel : Nat) (progs : Nat → List TOp) (t : Nat) :
    ∀ (sched : List Nat) (s : TState) (pc : Nat → Nat), CellOk s →
      ∃ k, outputsOf t (runSchedule fuel progs sched s pc) = (((progs t).drop (pc t)).take k).map (soloResult fuel) := by
  intro sched
  induction sched with
  | nil => intro s pc _; exact ⟨0, by simp [runSchedule, outputsOf]⟩
  | cons u rest ih =>
    intro s pc hs
    rw [runSchedule]
    cases hop : (progs u)[pc u]? with
    | none => exact ih s pc hs
    | some op =>
      obtain ⟨hout, hs'⟩ := C16_step_schedule_independent fuel s hs op
      obtain ⟨k, hk⟩ := ih (tstep fuel s op).1 (fun v => if v = u then pc u + 1 else pc v) hs'
      show ∃ k, outputsOf t ((u, (tstep fuel s op).2) :: runSchedule fuel progs rest (tstep fuel s op).1
        (fun v => if v = u then pc u + 1 else pc v)) = _
      rw [outputsOf_cons, hk, hout]
      by_cases hut : u = t
      · subst hut
        refine ⟨k + 1, ?_⟩
        have hlt : pc u < (progs u).length := by
          rcases Nat.lt_or_ge (pc u) (progs u).length with h | h
          · exact h
          · rw [List.getElem?_eq_none h] at hop; cases hop
        have hget : (progs u)[pc u]'hlt = op := by
          rw [List.getElem?_eq_getElem hlt] at hop; exact Option.some.inj hop
        simp only [if_true]
        rw [List.drop_eq_getElem_cons hlt, hget, List.take_succ_cons, List.map_cons]
      · refine ⟨k, ?_⟩
        have hne : ¬ t = u := fun h => hut h.symm
        simp only [hut, if_false, hne]

/-! non-vacuity: a racing first use yields the solo result -/
example : CellOk TState.init := Or.inl rfl

end JmesVerif

#print axioms JmesVerif.C16_step_schedule_independent
#print axioms JmesVerif.C16_cell_value
#print axioms JmesVerif.C16_schedule_independence
