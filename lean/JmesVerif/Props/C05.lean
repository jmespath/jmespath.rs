import JmesVerif.Props.C03
import JmesVerif.Props.C06
import JmesVerif.Props.C07
import JmesVerif.Lemmas.InterpFuel
import JmesVerif.Lemmas.LexerFuel
/-!
# C05 — compile and search are total: no panic, abort or hang on any input

What a theorem about the model can carry (recursion *depth* and loop bounds; stack bytes and
seconds are runtime quantities — this property is **partial by nature**):

* the lexer and the parser terminate on every input within a bound linear in its length
  (`C05_lexer_fuel_stable`, `C05_parser_fuel_sufficient`): no loop runs forever, recursion depth
  ≤ 8·|tokens| + 8;
* number tokens fit `i32` with room for negation (`C05_number_tokens_no_overflow`);
* the slice loops never overflow `i32`, never index out of bounds and stop within `len + 1`
  iterations, for every start/stop/step (`C05_slice_total`); negative indexes are total by construction;
* after validation no builtin reaches `unreachable!()` and the validator itself cannot panic
  (`C05_builtins_no_unreachable`, `C05_validator_no_panic`);
* `search` terminates on every JSON document for every expression whose expression references stay
  in the expref-typed parameters of `map/sort_by/max_by/min_by` (`C05_search_terminates`), and
  evaluation results never depend on surplus fuel (`C05_interp_fuel_monotone`);
* **negative result (known finding F13)**: a grammatical expression in which an expression
  reference reaches the data diverges for every fuel on every document (`C05_omega_diverges`).
Unbounded nesting depth (F12) is outside what fuel can express: recursion depth is linear in the
input, the stack is finite.
-/
namespace JmesVerif

theorem C05_parser_fuel_sufficient (ts : List PT) : parseTokens ts ≠ .error .fuel :=
  parseTokens_no_fuel ts

theorem C05_lexer_fuel_stable (total : Nat) (cs : List Char) (acc : List (Nat × Tok)) (k : Nat) :
    Lexer.loop total (cs.length + 1 + k) cs acc = Lexer.loop total (cs.length + 1) cs acc :=
  lexLoop_fuel_stable' total cs acc k

theorem C05_number_tokens_no_overflow (cs : List Char) (ts : List PT) (h : tokenize cs = .ok ts) (p : Nat) (n : Int)
    (hm : (p, Tok.number n) ∈ ts) : -2147483647 ≤ n ∧ n ≤ 2147483647 :=
  C03_number_tokens_in_range cs ts h p n hm

/-- the slice code is total: for every array (length within i32), bounds and non-zero step it
returns a list (no `Fault`: no overflow, no out-of-bounds index, no runaway loop) -/
theorem C05_slice_total (xs : List α) (start stop : Option Int) (step : Int) (hstep : step ≠ 0)
    (hlen : (xs.length : Int) ≤ I32_MAX) : ∃ ys, sliceList xs start stop step = .ok ys :=
  ⟨_, C07_slice_eq_python xs start stop step hstep hlen⟩

/-- no builtin call panics by itself: not in the signature check, not in an `unreachable!()` /
out-of-bounds arm of the body.  A panic out of `callFn` is a panic of a nested `interp` of the
expression reference passed to `map` / `sort_by` / `max_by` / `min_by` on one of the elements of
the array passed with it. -/
theorem C05_builtins_no_unreachable (rt : Registry) (fuel : Nat) (b : Builtin) (args : List Val) (off : Nat)
    (m : String) (h : callFn rt (fuel + 1) (.builtin b) args off = .error (.panic m)) :
    b.usesExpref = true ∧ ∃ a xs, Val.expref a ∈ args ∧ Val.arr xs ∈ args ∧
      ∃ f x o, x ∈ xs ∧ interp rt f x a o = .error (.panic m) := by
  rcases callFn_shape b args off with ⟨e, hv, hc⟩ | ⟨hb, hv, hc⟩ | ⟨rfl, a, xs, rfl⟩ | ⟨hb', a, xs, rfl⟩
  · cases (hc rt fuel).symm.trans h
    exact absurd hv (validate_no_panic _ _ _ _)
  · exact absurd (Comp.lift_error_iff.1 ((hc rt fuel).symm.trans h)) (pure_no_panic b args off hv hb m)
  · rw [callFn_map] at h
    refine ⟨rfl, a, xs, by simp, by simp, ?_⟩
    split at h
    · next hr => cases h; exact mapExpref_panic rt a m fuel xs off hr
    · cases h
  · rcases hb' with rfl | rfl | rfl <;> refine ⟨rfl, a, xs, by simp, by simp, ?_⟩
    · exact sortBy_panic rt fuel a xs off m h
    · rw [callFn_maxBy] at h; exact byExtreme_panic rt a m fuel true xs off h
    · rw [callFn_minBy] at h; exact byExtreme_panic rt a m fuel false xs off h

theorem C05_validator_no_panic (s : Sig) (args : List Val) (off : Nat) (m : String) :
    s.validate args off ≠ .error (.panic m) :=
  validate_no_panic s args off m

/-- **Termination.**  Every disciplined expression terminates on every JSON document, with a
JSON result. -/
theorem C05_search_terminates (a : Ast) (ha : a.Disciplined = true) (d : Val) (hd : d.isJson = true) (off : Nat) :
    ∃ n r, r ≠ .error .fuel ∧ (∀ v off', r = .ok (v, off') → v.isJson = true) ∧
      ∀ fuel, n ≤ fuel → interp Registry.default fuel d a off = r :=
  interp_converges Registry.default regOK_default a ha d hd off

theorem C05_interp_fuel_monotone (rt : Registry) (fuel : Nat) (d : Val) (a : Ast) (off : Nat) (r : ERes Val)
    (h : interp rt fuel d a off = r) (hr : r ≠ .error .fuel) :
    ∀ fuel', fuel ≤ fuel' → interp rt fuel' d a off = r :=
  interp_mono rt fuel d a off r h hr

/-- **F13.**  `to_array(not_null(&map(@[0], [@]))) | map(@[0], [@])` compiles, and searching *any*
document with it never terminates: the model is out of fuel for every fuel. -/
theorem C05_omega_diverges : match parseExpr omegaSrc.toList with
    | .ok (_, a) => ∀ (fuel : Nat) (d : Val), search Registry.default fuel a d = .error .fuel
    | .error _ => False := by
  have ⟨e, a, hp, h⟩ := omegaSrc_diverges
  rwa [hp]


/-! ### no arithmetic site of the translated slice / index code can fault

`Generated/Code.lean` (re-translated from variable.rs / interpreter.rs on every run) performs every `i32` / `usize`
operation through a checked primitive (`Fault.overflow`), every `array[i]` through a checked lookup
(`Fault.outOfBounds`) and every `while` under a budget (`Fault.fuel`).  For all in-range inputs the result is `.ok`:
none of these faults can occur.  The one overflowing input of the index arm, `idx = i32::MIN`, is exhibited; the lexer
never produces it (`C05_number_tokens_no_overflow`). -/
open Generated.Code in
theorem C05_translated_code_no_fault {α : Type} :
    (∀ len endpoint step : Int, 0 ≤ len → len ≤ I32_MAX → InI32 endpoint →
        ∃ r, adjust_slice_endpoint len endpoint step = .ok r) ∧
    (∀ (fuel : Nat) (xs : List α) (start stop : Option Int) (step : Int), xs.length + 1 ≤ fuel → (xs.length : Int) ≤ I32_MAX →
        OptInI32 start → OptInI32 stop → step ≠ 0 → ∃ r, slice fuel xs start stop step = .ok r) ∧
    (∀ (xs : List α) (idx : Int), I32_MIN < idx → idx ≤ I32_MAX → ∃ r, index xs idx = .ok r) ∧
    (∀ xs : List α, index xs I32_MIN = .error .overflow) :=
  ⟨fun len e s h0 h1 he => ⟨_, gen_adjust_eq len e s h0 h1 he⟩,
   fun fuel xs a b s hf hl ha hb hs => ⟨_, C07_translated_slice_eq_python fuel xs a b s hf hl ha hb hs⟩,
   fun xs i h1 h2 => ⟨_, gen_index_eq xs i h1 h2⟩,
   gen_index_min_overflows⟩

end JmesVerif

#print axioms JmesVerif.C05_parser_fuel_sufficient
#print axioms JmesVerif.C05_lexer_fuel_stable
#print axioms JmesVerif.C05_number_tokens_no_overflow
#print axioms JmesVerif.C05_slice_total
#print axioms JmesVerif.C05_builtins_no_unreachable
#print axioms JmesVerif.C05_validator_no_panic
#print axioms JmesVerif.C05_search_terminates
#print axioms JmesVerif.C05_interp_fuel_monotone
#print axioms JmesVerif.C05_omega_diverges
#print axioms JmesVerif.C05_translated_code_no_fault
