import JmesVerif.Model.Registry
/-!
# C13 — compile and search are pure: deterministic, history-independent, non-mutating

`histRun` threads exactly the state the code has across a history of compile / clone / drop /
search calls on numbered handles: each handle holds a compiled tree and its source text; every
search builds a fresh `Context` (offset 0); documents are shared immutable inputs.
`statelessRun` is the specification: it remembers only *which source text* each handle denotes
and answers every search by compiling that text afresh and searching.  `C13_history_independent`:
the two agree on every history — so no result depends on what happened before.
(In an immutable model much of this holds by construction; its force comes from the `history`
correspondence stream, which runs the same histories against the real code.)
-/
namespace JmesVerif

abbrev Texts := List (Nat × List Char)

def Texts.get (t : Texts) (k : Nat) : Option (List Char) := aGet t k
def Texts.set (t : Texts) (k : Nat) (x : Option (List Char)) : Texts := aSet t k x

/-- the answer a single, isolated compile-and-search gives (the `.error` arm is not reached from
`statelessStep`, which stores only texts that compile) -/
def singleShot (fuel : Nat) (text : List Char) (doc : Val) : HistOut :=
  match parseExpr text with
  | .ok (_, a) => .searched (search Registry.default fuel a doc)
  | .error _ => .empty

def statelessStep (fuel : Nat) (docs : List Val) (t : Texts) : HistOp → Texts × HistOut
  | .compile k text =>
    match parseExpr text with
    | .ok (_, a) => (t.set k (some text), .compiled a)
    | .error e => (t.set k none, .compileErr e)
  | .clone k j =>
    match t.get j with
    | some x => (t.set k (some x), .cloned)
    | none => (t.set k none, .empty)
  | .drop k => (t.set k none, .dropped)
  | .search k j =>
    match t.get k with
    | none => (t, .empty)
    | some text => (t, singleShot fuel text (docs.getD j .null))

def statelessRun (fuel : Nat) (docs : List Val) : Texts → List HistOp → List HistOut
  | _, [] => []
  | t, op :: ops =>
    let (t', out) := statelessStep fuel docs t op
    out :: statelessRun fuel docs t' ops

/-- the handle table holds, for every handle, the tree its text compiles to -/
def Agree (s : Slots) (t : Texts) : Prop :=
  ∀ k, match s.get k, t.get k with
    | some c, some x => c.text = x ∧ ∃ e, parseExpr x = .ok (e, c.ast)
    | none, none => True
    | _, _ => False

theorem aGet_aRemove {β : Type} (s : List (Nat × β)) (k j : Nat) :
    aGet (aRemove s k) j = if k = j then none else aGet s j := by
  induction s with
  | nil => simp [aRemove, aGet]
  | cons p rest ih =>
    obtain ⟨k', c⟩ := p
    simp only [aRemove, aGet]
    by_cases hk : k' = k
    · subst hk
      rw [if_pos rfl, ih]
      by_cases h : k' = j <;> simp [h]
    · rw [if_neg hk, aGet, ih]
      by_cases h : k' = j
      · subst h; simp [Ne.symm hk]
      · simp [h]

theorem aGet_aSet {β : Type} (s : List (Nat × β)) (k j : Nat) (c : Option β) :
    aGet (aSet s k c) j = if k = j then c else aGet s j := by
  cases c with
  | none => exact aGet_aRemove s k j
  | some c =>
    simp only [aSet, aGet, aGet_aRemove]
    by_cases h : k = j <;> simp [h]

theorem agree_set (s : Slots) (t : Texts) (h : Agree s t) (k : Nat) (c : Option Compiled) (x : Option (List Char))
    (hcx : match c, x with
      | some c, some x => c.text = x ∧ ∃ e, parseExpr x = .ok (e, c.ast)
      | none, none => True
      | _, _ => False) : Agree (s.set k c) (t.set k x) := by
  intro j
  unfold Slots.get Slots.set Texts.get Texts.set
  rw [aGet_aSet, aGet_aSet]
  by_cases hk : k = j
  · simp only [hk, if_true]; exact hcx
  · simp only [hk, if_false]; exact h j

theorem step_agree (fuel : Nat) (docs : List Val) (s : Slots) (t : Texts) (h : Agree s t) (op : HistOp) :
    (histStep fuel docs s op).2 = (statelessStep fuel docs t op).2 ∧
    Agree (histStep fuel docs s op).1 (statelessStep fuel docs t op).1 := by
  cases op with
  | compile k text =>
    dsimp only [histStep, statelessStep]
    cases hp : parseExpr text with
    | error e => exact ⟨rfl, agree_set s t h k none none trivial⟩
    | ok r =>
      obtain ⟨e, a⟩ := r
      exact ⟨rfl, agree_set s t h k (some ⟨a, text⟩) (some text) ⟨rfl, e, hp⟩⟩
  | clone k j =>
    dsimp only [histStep, statelessStep]
    have hj := h j
    split at hj
    · rename_i c x hs ht
      rw [hs, ht]
      exact ⟨rfl, agree_set s t h k (some c) (some x) hj⟩
    · rename_i hs ht
      rw [hs, ht]
      exact ⟨rfl, agree_set s t h k none none trivial⟩
    · exact hj.elim
  | drop k => exact ⟨rfl, agree_set s t h k none none trivial⟩
  | search k j =>
    dsimp only [histStep, statelessStep]
    have hk := h k
    split at hk
    · rename_i c x hs ht
      obtain ⟨_, e, hp⟩ := hk
      rw [hs, ht]
      exact ⟨by simp [singleShot, hp], h⟩
    · rename_i hs ht
      rw [hs, ht]
      exact ⟨rfl, h⟩
    · exact hk.elim

/-- **History independence.**  For every history of compile / clone / drop / search calls over any
handles, expressions and documents — including failing compiles and failing searches — every
output equals what a fresh, isolated compile-and-search of the same text gives. -/
theorem C13_history_independent (fuel : Nat) (docs : List Val) (ops : List HistOp) :
    ∀ (s : Slots) (t : Texts), Agree s t → histRun fuel docs s ops = statelessRun fuel docs t ops := by
  induction ops with
  | nil => intro s t _; rfl
  | cons op rest ih =>
    intro s t h
    obtain ⟨h1, h2⟩ := step_agree fuel docs s t h op
    simp only [histRun, statelessRun]
    rw [h1, ih _ _ h2]

theorem C13_from_empty (fuel : Nat) (docs : List Val) (ops : List HistOp) :
    histRun fuel docs [] ops = statelessRun fuel docs [] ops :=
  C13_history_independent fuel docs ops [] [] (fun _ => by simp [Slots.get, Texts.get, aGet])

/-- compile is a function of the text (same string, same tree) -/
theorem C13_compile_deterministic (t : List Char) : ∀ r₁ r₂, parseExpr t = r₁ → parseExpr t = r₂ → r₁ = r₂ := by
  intro r₁ r₂ h₁ h₂; rw [← h₁, ← h₂]

end JmesVerif

#print axioms JmesVerif.C13_history_independent
#print axioms JmesVerif.C13_from_empty
