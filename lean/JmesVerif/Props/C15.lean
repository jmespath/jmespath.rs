import JmesVerif.Model.Registry
/-!
# C15 — calls follow the runtime registry; custom functions receive evaluated arguments

`Registry.run ops` is the runtime after any sequence of `register_function` /
`deregister_function` / `register_builtin_functions` calls on a fresh runtime.
`lastLive ops name` is the specification: the function of the most recent registration of `name`
that no later deregistration removed (`register_builtin_functions` counts as 26 registrations).
-/
namespace JmesVerif

/-- what one operation does to one name: `some (some f)` binds it, `some none` unbinds it,
`none` leaves it alone -/
def RegOp.effect (name : String) : RegOp → Option (Option Fn)
  | .register n f => if n = name then some (some f) else none
  | .deregister n => if n = name then some none else none
  | .registerBuiltins =>
    match Builtin.all.reverse.find? (fun p => p.1 = name) with
    | some p => some (some (.builtin p.2))
    | none => none

/-- the most recent operation that touches `name` decides -/
def lastLive (name : String) : List RegOp → Option Fn
  | [] => none
  | op :: earlier =>          -- list given most-recent-first
    match op.effect name with
    | some r => r
    | none => lastLive name earlier

theorem get_remove (r : Registry) (n name : String) :
    (r.remove n).get name = if n = name then none else r.get name := by
  induction r with
  | nil => simp [Registry.remove, Registry.get]
  | cons p rest ih =>
    obtain ⟨k, f⟩ := p
    simp only [Registry.remove, Registry.get]
    by_cases hk : k = n
    · subst hk
      rw [if_pos rfl, ih]
      by_cases h : k = name <;> simp [h]
    · rw [if_neg hk, Registry.get, ih]
      by_cases h : k = name
      · subst h; simp [hk, Ne.symm hk]
      · simp [h]

theorem get_insert (r : Registry) (n name : String) (f : Fn) :
    (r.insert n f).get name = if n = name then some f else r.get name := by
  simp only [Registry.insert, Registry.get, get_remove]
  by_cases h : n = name <;> simp [h]

theorem get_foldl_insert (l : List (String × Builtin)) (r : Registry) (name : String) :
    (l.foldl (fun r p => r.insert p.1 (.builtin p.2)) r).get name =
      match l.reverse.find? (fun p => p.1 = name) with
      | some p => some (.builtin p.2)
      | none => r.get name := by
  induction l generalizing r with
  | nil => simp
  | cons p rest ih =>
    simp only [List.foldl, List.reverse_cons, List.find?_append]
    rw [ih]
    cases hfind : rest.reverse.find? (fun p => p.1 = name) with
    | some q => simp
    | none =>
      simp only [Option.none_or, List.find?_cons, List.find?_nil]
      rw [get_insert]
      by_cases h : p.1 = name <;> simp [h]

theorem get_step (r : Registry) (op : RegOp) (name : String) :
    (r.step op).get name = match op.effect name with
      | some x => x
      | none => r.get name := by
  cases op with
  | register n f =>
    simp only [Registry.step, RegOp.effect, get_insert]
    by_cases h : n = name <;> simp [h]
  | deregister n =>
    simp only [Registry.step, RegOp.effect, get_remove]
    by_cases h : n = name <;> simp [h]
  | registerBuiltins =>
    simp only [Registry.step, RegOp.effect, Registry.registerBuiltins, get_foldl_insert]
    cases Builtin.all.reverse.find? (fun p => p.1 = name) <;> simp

/-- the runtime after a most-recent-first list of operations -/
def runRev : List RegOp → Registry
  | [] => []
  | op :: earlier => (runRev earlier).step op

theorem runRev_get (rops : List RegOp) (name : String) : (runRev rops).get name = lastLive name rops := by
  induction rops with
  | nil => rfl
  | cons op earlier ih =>
    simp only [runRev, lastLive, get_step, ih]

theorem run_eq_runRev (ops : List RegOp) : Registry.run ops = runRev ops.reverse := by
  unfold Registry.run
  have : ∀ (l : List RegOp) (r : Registry), l.foldl Registry.step r = (l.reverse.foldr (fun op r => r.step op) r) := by
    intro l
    induction l with
    | nil => intro r; rfl
    | cons x xs ih => intro r; simp only [List.foldl, ih, List.reverse_cons, List.foldr_append, List.foldr]
  rw [this]
  generalize ops.reverse = l
  induction l with
  | nil => rfl
  | cons x xs ih => simp [List.foldr, runRev, ih]

/-- **The registry is "last registration wins".**  After any sequence of operations on a fresh
runtime, looking a name up yields exactly the function of the most recent registration of that
name still in force — and nothing for a name never registered or since deregistered. -/
theorem C15_lookup_is_last_live (ops : List RegOp) (name : String) :
    (Registry.run ops).get name = lastLive name ops.reverse := by
  rw [run_eq_runRev, runRev_get]

/-- a fresh runtime has no functions -/
theorem C15_fresh_runtime_empty (name : String) : (Registry.run []).get name = none := rfl

/-- **A call consults the registry of the runtime it was compiled from**: the arguments are
evaluated first (against the current node, in source order), then the name is looked up; an
unregistered name is the unknown-function error at the call's offset. -/
theorem C15_call_follows_registry (rt : Registry) (fuel : Nat) (d : Val) (o : Nat) (name : String)
    (args : List Ast) (off : Nat) :
    interp rt (fuel + 1) d (.function o name args) off =
      match interpAll rt fuel d args off with
      | .error e => .error e
      | .ok (vs, prev) =>
        match rt.get name with
        | some f =>
          (match callFn rt fuel f vs o with
           | .error e => .error e
           | .ok (v, _) => .ok (v, prev))
        | none => .error (.runtime (.unknownFunction name) o) := by
  rw [interp]
  rfl

/-- arguments are evaluated in source order against the *same* current node -/
theorem C15_args_in_order (rt : Registry) (fuel : Nat) (d : Val) (a : Ast) (rest : List Ast) (off : Nat) :
    interpAll rt (fuel + 1) d (a :: rest) off =
      match interp rt fuel d a off with
      | .error e => .error e
      | .ok (v, off) =>
        match interpAll rt fuel d rest off with
        | .error e => .error e
        | .ok (vs, off) => .ok (v :: vs, off) := by
  rw [interpAll]
  rfl

/-- expression references are passed unevaluated -/
theorem C15_expref_unevaluated (rt : Registry) (fuel : Nat) (d : Val) (o : Nat) (a : Ast) (off : Nat) :
    interp rt (fuel + 1) d (.expref o a) off = .ok (.expref a, off) := by
  simp [interp]

/-- a custom function declared with a signature is only invoked when the arguments satisfy it;
it then receives exactly the evaluated arguments -/
theorem C15_custom_signature_guards (rt : Registry) (fuel : Nat) (id : Nat) (s : Sig) (args : List Val) (off : Nat) :
    callFn rt (fuel + 1) (.custom id (some s)) args off =
      match s.validate args off with
      | .error e => .error e
      | .ok () => .ok (customResult id args, off) := by
  rw [callFn]
  rfl

theorem C15_custom_closure (rt : Registry) (fuel : Nat) (id : Nat) (args : List Val) (off : Nat) :
    callFn rt (fuel + 1) (.custom id none) args off = .ok (customResult id args, off) := by
  simp [callFn]

/-! non-vacuity: shadowing a builtin, then deregistering -/
example : lastLive "abs" [RegOp.register "abs" (.custom 1 none), .registerBuiltins] = some (.custom 1 none) := by
  simp [lastLive, RegOp.effect]
example : lastLive "abs" [RegOp.deregister "abs", .register "abs" (.custom 1 none), .registerBuiltins] = none := by
  simp [lastLive, RegOp.effect]

end JmesVerif

#print axioms JmesVerif.C15_lookup_is_last_live
#print axioms JmesVerif.C15_fresh_runtime_empty
#print axioms JmesVerif.C15_call_follows_registry
#print axioms JmesVerif.C15_args_in_order
#print axioms JmesVerif.C15_expref_unevaluated
#print axioms JmesVerif.C15_custom_signature_guards
#print axioms JmesVerif.C15_custom_closure
