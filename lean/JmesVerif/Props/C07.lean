import JmesVerif.Lemmas.Slice
import JmesVerif.Lemmas.CodeEquiv

/-!
# C07 — slices select exactly the elements of the start:stop:step rule; negative indexes

The model
(`Model/Slice.lean`) mirrors `variable.rs` `slice`/`adjust_slice_endpoint`/`get_index`/
`get_negative_index`; the specification (`Spec/PySlice.lean`) is Python's
`slice.indices` + `range`.  Quantification: every list (`length ≤ i32::MAX`, which is what
`array.len() as i32` assumes), every optional start/stop over *all* integers (a superset of
i32), every non-zero step over all integers.
-/
namespace JmesVerif
open Spec

/-- **C07 main theorem.**  For every array, every (possibly omitted) start/stop and every
non-zero step, the hand model of `slice` returns — without overflow, out-of-bounds access or
running out of fuel — exactly Python's `xs[start:stop:step]`.  (`C07_translated_slice_eq_python`
is the same for the translated source.) -/
theorem C07_slice_eq_python (xs : List α) (start stop : Option Int) (step : Int)
    (hstep : step ≠ 0) (hlen : (xs.length : Int) ≤ I32_MAX) :
    sliceList xs start stop step = .ok (pySlice xs start stop step) := by
  unfold sliceList pySlice
  by_cases h0 : (xs.length : Int) = 0
  · have : xs = [] := by
      cases xs with
      | nil => rfl
      | cons x t => simp only [List.length_cons] at h0; omega
    subst this; simp
  · simp only [h0, if_false]
    have hpos : (0 : Int) < xs.length := by omega
    have h0 : (0 : Int) ≤ xs.length := by omega
    rw [← sliceA_eq_pyStart _ start step h0, ← sliceB_eq_pyStop _ stop step h0]
    by_cases hs : step > 0
    · simp only [hs, if_true]
      have ha := sliceA_up _ start step h0 hs
      have hb := sliceB_up _ stop step h0 hs
      exact loopUp_eq xs _ step hs hb hlen _ _ ha (by omega)
    · simp only [hs, if_false]
      have hneg : step < 0 := by omega
      have ha := sliceA_down _ start step h0 hneg
      have hb := sliceB_down _ stop step h0 hneg
      exact loopDown_eq xs _ step hneg hb hlen _ _ ha (by omega)

/-- the positions Python's rule selects are the arithmetic progression from the effective start,
strictly before the effective stop in the direction of travel -/
theorem C07_mem_pyRange (a b step k : Int) (hstep : step ≠ 0) :
    k ∈ pyRange a b step ↔
      ∃ j : Nat, k = a + (j : Int) * step ∧ (if step > 0 then k < b else b < k) := by
  unfold pyRange
  simp only [List.mem_map, List.mem_range]
  constructor
  · rintro ⟨j, hj, rfl⟩
    refine ⟨j, rfl, ?_⟩
    unfold rangeLen at hj
    by_cases hs : step > 0
    · simp only [hs, if_true] at hj ⊢
      by_cases hab : a < b
      · simp only [hab, if_true] at hj
        have h1 : (j : Int) ≤ (b - a - 1) / step := by omega
        have h2 : (j : Int) * step ≤ b - a - 1 := by
          have := Int.mul_le_mul_of_nonneg_right h1 (by omega : 0 ≤ step)
          have := Int.ediv_mul_le (b - a - 1) (by omega : step ≠ 0)
          omega
        omega
      · simp [hab] at hj
    · have hn : step < 0 := by omega
      simp only [hs, if_false, hn, if_true] at hj ⊢
      by_cases hab : b < a
      · simp only [hab, if_true] at hj
        have h1 : (j : Int) ≤ (a - b - 1) / (-step) := by omega
        have h2 : (j : Int) * (-step) ≤ a - b - 1 := by
          have := Int.mul_le_mul_of_nonneg_right h1 (by omega : 0 ≤ -step)
          have := Int.ediv_mul_le (a - b - 1) (by omega : -step ≠ 0)
          omega
        have : (j : Int) * (-step) = -((j : Int) * step) := by rw [Int.mul_neg]
        omega
      · simp [hab] at hj
  · rintro ⟨j, rfl, hj⟩
    refine ⟨j, ?_, rfl⟩
    unfold rangeLen
    by_cases hs : step > 0
    · simp only [hs, if_true] at hj ⊢
      have hnn : 0 ≤ (j : Int) * step := Int.mul_nonneg (by omega) (by omega)
      have hab : a < b := by omega
      simp only [hab, if_true]
      have : (j : Int) ≤ (b - a - 1) / step := by
        rw [Int.le_ediv_iff_mul_le hs]; omega
      omega
    · have hn : step < 0 := by omega
      simp only [hs, if_false, hn, if_true] at hj ⊢
      have e : (j : Int) * (-step) = -((j : Int) * step) := by rw [Int.mul_neg]
      have hnn : 0 ≤ (j : Int) * (-step) := Int.mul_nonneg (by omega) (by omega)
      have hab : b < a := by omega
      simp only [hab, if_true]
      have : (j : Int) ≤ (a - b - 1) / (-step) := by
        rw [Int.le_ediv_iff_mul_le (by omega : 0 < -step)]; omega
      omega

/-- every position selected lies inside the array, so the `getElem?` lookup in `pySlice` never
drops one -/
theorem C07_positions_in_bounds (len : Nat) (start stop : Option Int) (step k : Int)
    (hstep : step ≠ 0)
    (hk : k ∈ pyRange (pyStart len step start) (pyStop len step stop) step) :
    0 ≤ k ∧ k < len := by
  rw [C07_mem_pyRange _ _ _ _ hstep] at hk
  obtain ⟨j, rfl, hj⟩ := hk
  have h0 : (0 : Int) ≤ len := by omega
  rw [← sliceA_eq_pyStart _ start step h0] at hj ⊢
  rw [← sliceB_eq_pyStop _ stop step h0] at hj
  by_cases hs : step > 0
  · simp only [hs, if_true] at hj
    have hnn : 0 ≤ (j : Int) * step := Int.mul_nonneg (by omega) (by omega)
    have ha := sliceA_up _ start step h0 hs
    have hb := sliceB_up _ stop step h0 hs
    omega
  · have hn : step < 0 := by omega
    simp only [hs, if_false] at hj
    have e : (j : Int) * (-step) = -((j : Int) * step) := by rw [Int.mul_neg]
    have hnn : 0 ≤ (j : Int) * (-step) := Int.mul_nonneg (by omega) (by omega)
    have ha := sliceA_down _ start step h0 hn
    have hb := sliceB_down _ stop step h0 hn
    omega

/-- positions are visited in strictly increasing (step > 0) or strictly decreasing (step < 0)
order: no element is selected twice and order follows the direction of the step -/
theorem C07_pyRange_strict (a b step : Int) :
    (step > 0 → (pyRange a b step).Pairwise (· < ·)) ∧
    (step < 0 → (pyRange a b step).Pairwise (· > ·)) := by
  unfold pyRange
  constructor
  · intro hs
    rw [List.pairwise_map]
    refine List.Pairwise.imp ?_ List.pairwise_lt_range
    intro i j hij
    have : (i : Int) * step < (j : Int) * step :=
      Int.mul_lt_mul_of_pos_right (by omega) hs
    omega
  · intro hs
    rw [List.pairwise_map]
    refine List.Pairwise.imp ?_ List.pairwise_lt_range
    intro i j hij
    have : (i : Int) * (-step) < (j : Int) * (-step) :=
      Int.mul_lt_mul_of_pos_right (by omega) (by omega)
    rw [Int.mul_neg, Int.mul_neg] at this
    omega

/-- **Negative (and non-negative) indexes.**  `xs[n]` is the element at `n` for `n ≥ 0` and at
`len + n` for `n < 0`; out of range is null (`none`). -/
theorem C07_index_eq_python (xs : List α) (n : Int) : indexList xs n = pyIndex xs n := by
  unfold indexList pyIndex getIndex getNegIndex
  by_cases h : n ≥ 0
  · have : ¬ n < 0 := by omega
    simp [h, this]
  · have hn : n < 0 := by omega
    simp only [h, if_false, hn, if_true]
    by_cases hge : xs.length ≥ max (-n).toNat 1
    · have hk : ¬ ((xs.length : Int) + n < 0) := by omega
      simp only [hge, if_true, hk, if_false]
      congr 1; omega
    · have hk : (xs.length : Int) + n < 0 := by omega
      simp [hge, hk]

example : sliceList [10, 11, 12, 13, 14] (some 1) none 2 = .ok [11, 13] := by rfl
example : sliceList [10, 11, 12] (some 1) none 2147483647 = .ok [11] := by rfl
example : sliceList [10, 11, 12] none none (-1) = .ok [12, 11, 10] := by rfl
example : pySlice [10, 11, 12, 13, 14] (some (-2)) (some (-100)) (-2) = [13, 11] := by decide
example : indexList [10, 11, 12] (-1) = some 12 ∧ indexList [10, 11, 12] (-4) = none := by decide

/-! ### the code as re-translated from the Rust source on every run

`Generated/Code.lean` is written by `tools/rs2lean.py` from the *bodies* of `slice`, `adjust_slice_endpoint`
(variable.rs), `get_index`, `get_negative_index` and the `Ast::Index` arm of `interpret`, with **checked**
`i32` / `usize` arithmetic, casts and indexing at every site.  `Lemmas/CodeEquiv.lean` proves the translated
definitions equal to the hand-written model above; hence the translated source computes Python's slice
and index rule, without overflow, out-of-bounds access or non-termination, for every array of up to `i32::MAX`
elements, every start / stop in the `i32` range and every non-zero step. -/
open Generated.Code in
theorem C07_translated_slice_eq_python {α : Type} (fuel : Nat) (xs : List α) (start stop : Option Int) (step : Int)
    (hfuel : xs.length + 1 ≤ fuel) (hlen : (xs.length : Int) ≤ I32_MAX)
    (hstart : OptInI32 start) (hstop : OptInI32 stop) (hstep : step ≠ 0) :
    slice fuel xs start stop step = .ok (pySlice xs start stop step) := by
  rw [gen_slice_eq fuel xs start stop step hfuel hlen hstart hstop hstep,
    C07_slice_eq_python xs start stop step hstep hlen]

open Generated.Code in
theorem C07_translated_index_eq_python {α : Type} (xs : List α) (idx : Int) (h1 : I32_MIN < idx) (h2 : idx ≤ I32_MAX) :
    index xs idx = .ok (pyIndex xs idx) := by
  rw [gen_index_eq xs idx h1 h2, C07_index_eq_python]

open Generated.Code in
example : slice 4 [1, 2, 3] (some 2147483647) (some (-2147483648)) (-1) = .ok (pySlice [1, 2, 3] (some 2147483647) (some (-2147483648)) (-1)) :=
  C07_translated_slice_eq_python 4 _ _ _ _ (by decide) (by decide) (by in_range) (by in_range) (by decide)

end JmesVerif

#print axioms JmesVerif.C07_slice_eq_python
#print axioms JmesVerif.C07_mem_pyRange
#print axioms JmesVerif.C07_positions_in_bounds
#print axioms JmesVerif.C07_pyRange_strict
#print axioms JmesVerif.C07_index_eq_python
#print axioms JmesVerif.C07_translated_slice_eq_python
#print axioms JmesVerif.C07_translated_index_eq_python
