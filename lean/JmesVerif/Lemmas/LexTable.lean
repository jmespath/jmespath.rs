import JmesVerif.Model.LexTable
/-!
The lexer model follows the documented dispatch table: for every first character, `Lexer.lexOne` does exactly
what the table says (first matching arm, default = invalid character).
-/
namespace JmesVerif

theorem actOf_nil (c : Char) : actOf [] c = .invalid := rfl

theorem actOf_cons (a : LexArm) (t : List LexArm) (c : Char) :
    actOf (a :: t) c = if a.covers c = true then a.2 else actOf t c := by
  unfold actOf
  rw [List.find?_cons]
  cases a.covers c <;> simp

theorem range_single (x c : Char) : (decide (x ≤ c) && decide (c ≤ x)) = decide (c = x) := by
  rw [Bool.eq_iff_iff]
  simp only [Bool.and_eq_true, decide_eq_true_eq]
  constructor
  · intro ⟨h1, h2⟩; exact Char.le_antisymm h2 h1
  · intro h; subst h; exact ⟨Char.le_refl _, Char.le_refl _⟩

theorem covers_single (x : Char) (a : LexAct) (c : Char) :
    LexArm.covers ([(x, x)], a) c = decide (c = x) := by
  simp only [LexArm.covers, List.any, Bool.or_false, range_single]

theorem covers_idStart (a : LexAct) (c : Char) :
    LexArm.covers ([('a', 'z'), ('A', 'Z'), ('_', '_')], a) c = Lexer.isIdStart c := by
  simp only [LexArm.covers, List.any, Bool.or_false, range_single, Lexer.isIdStart, Bool.or_assoc]

theorem covers_digit (a : LexAct) (c : Char) :
    LexArm.covers ([('0', '9')], a) c = Lexer.isDigit c := by
  simp only [LexArm.covers, List.any, Bool.or_false, Lexer.isDigit]

theorem covers_ws (a : LexAct) (c : Char) :
    LexArm.covers ([(' ', ' '), ('\n', '\n'), ('\t', '\t'), ('\r', '\r')], a) c = Lexer.isWs c := by
  simp only [LexArm.covers, List.any, Bool.or_false, range_single, Lexer.isWs, Bool.or_assoc]

/-- one test of the lexer's if-chain against the first arm of the table -/
theorem ite_arm {p : Prop} [Decidable p] {x y : Except LexErr (Option Tok × List Char)}
    {arm : LexArm} {t : List LexArm} {pos : Nat} {c : Char} {cs : List Char} (hp : arm.covers c = true ↔ p)
    (h1 : p → x = Lexer.runAct arm.2 pos c cs) (h2 : ¬p → y = Lexer.runAct (actOf t c) pos c cs) :
    (if p then x else y) = Lexer.runAct (actOf (arm :: t) c) pos c cs := by
  rw [actOf_cons]
  by_cases h : p
  · rw [if_pos h, if_pos (hp.2 h)]; exact h1 h
  · rw [if_neg h, if_neg (mt hp.1 h)]; exact h2 h

theorem lexOne_eq_table (pos : Nat) (c : Char) (cs : List Char) :
    Lexer.lexOne pos c cs = Lexer.runAct (actOf lexArmsDoc c) pos c cs := by
  unfold Lexer.lexOne lexArmsDoc
  repeat' refine ite_arm (by simp only [covers_single, covers_idStart, covers_digit, covers_ws, decide_eq_true_eq])
              (fun _ => ?_) (fun _ => ?_)
  -- the arms by kind of action (`single`, `alt`, `call`; the rest by computation); a wrong kind fails at the first rewrite
  all_goals first
    | (rw [Lexer.runAct.eq_1, tokOfName]; done)
    | (rw [Lexer.runAct.eq_2, tokOfName, tokOfName]
       split
       · rfl
       · rename_i hne
         cases cs with
         | nil => rfl
         | cons d r => exact (if_neg fun (h : d = _) => hne r (h ▸ rfl)).symm)
    | (rw [Lexer.runAct.eq_3, Lexer.runCall]; rfl)
    | rfl

theorem actOf_covers {t : List LexArm} {c : Char} {a : LexAct} (h : actOf t c = a) (ha : a ≠ .invalid) :
    ∃ arm ∈ t, arm.2 = a ∧ arm.covers c = true := by
  unfold actOf at h
  split at h
  · rename_i arm hf
    exact ⟨arm, List.mem_of_find?_eq_some hf, h, by simpa using List.find?_some hf⟩
  · exact absurd h.symm ha

theorem whitespace_iff (c : Char) :
    actOf lexArmsDoc c = .skip ↔ (c = ' ' ∨ c = '\n' ∨ c = '\t' ∨ c = '\r') := by
  constructor
  · intro h
    obtain ⟨arm, hm, ha, hc⟩ := actOf_covers h (by decide)
    -- the only arm that skips is the last
    have : arm ∈ lexArmsDoc.filter (·.2 = .skip) := List.mem_filter.2 ⟨hm, decide_eq_true ha⟩
    obtain rfl : arm = _ := List.mem_singleton.1 this
    simpa [covers_ws, Lexer.isWs, or_assoc] using hc
  · rintro (rfl | rfl | rfl | rfl) <;> rfl

theorem actOf_invalid_iff (t : List LexArm) (ht : ∀ a ∈ t, a.2 ≠ .invalid) (c : Char) :
    actOf t c = .invalid ↔ t.all (fun a => !a.covers c) = true := by
  induction t with
  | nil => simp [actOf_nil]
  | cons a t ih =>
    have ha : a.2 ≠ .invalid := ht a (List.mem_cons_self ..)
    have ih' := ih (fun b hb => ht b (List.mem_cons_of_mem _ hb))
    rw [actOf_cons, List.all_cons]
    cases hc : a.covers c
    · simpa using ih'
    · simpa using ha

theorem invalid_iff (c : Char) :
    actOf lexArmsDoc c = .invalid ↔ lexArmsDoc.all (fun a => !a.covers c) = true :=
  actOf_invalid_iff lexArmsDoc (by decide) c

end JmesVerif

#print axioms JmesVerif.whitespace_iff
#print axioms JmesVerif.invalid_iff
#print axioms JmesVerif.lexOne_eq_table
