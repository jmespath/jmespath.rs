import JmesVerif.Lemmas.Builtins
import JmesVerif.Lemmas.F64Spec
/-!
# `sum` / `avg` on integers: the builtins meet the raw-fold lemmas of `F64Spec`

`F64Spec` states exactness of `List.foldl F64.add` and of `sum / length` on lists of doubles holding
integers; here those statements are transported to `Builtin.pure .sum` / `Builtin.pure .avg` applied
to a JSON array of integer numbers.
-/
namespace JmesVerif

open F64

/-- the JSON number holding an integer -/
def intVal (k : Int) : Val := .num (if 0 ≤ k then .pos k.toNat else .neg k)

/-- the double image of the JSON integer `k` -/
def intF64 (k : Int) : F64 := (if 0 ≤ k then Num.pos k.toNat else Num.neg k).toF64

theorem valNum_intVal (k : Int) : valNum (intVal k) = some (intF64 k) := rfl

theorem intF64_isInt (k : Int) (h : k.natAbs ≤ 2^53) : IsInt (intF64 k) k := by
  unfold intF64
  split
  · rename_i h0
    have := ofNat_exact k.toNat (by omega)
    have hk : ((k.toNat : Nat) : Rat) = (k : Rat) := by
      rw [← Rat.intCast_natCast, Int.toNat_of_nonneg h0]
    rw [hk] at this
    exact this
  · exact ofInt_exact k h

theorem nat_le_sum_of_mem {x : Nat} : ∀ {l : List Nat}, x ∈ l → x ≤ l.sum
  | [], h => by cases h
  | y :: l, h => by
    rw [List.sum_cons]
    rcases List.mem_cons.1 h with rfl | h
    · omega
    · have := nat_le_sum_of_mem h; omega

theorem natAbs_sum_le : ∀ ks : List Int, ks.sum.natAbs ≤ (ks.map Int.natAbs).sum
  | [] => by simp
  | k :: ks => by
    have := natAbs_sum_le ks
    simp only [List.sum_cons, List.map_cons]
    omega

theorem allInt_intF64 : ∀ ks : List Int, (∀ k ∈ ks, k.natAbs ≤ 2^53) → AllInt (ks.map intF64) ks
  | [], _ => .nil
  | k :: ks, h =>
    .cons (intF64_isInt k (h k (List.mem_cons_self ..)))
      (allInt_intF64 ks (fun k' hk' => h k' (List.mem_cons_of_mem _ hk')))

/-- `sum`'s accumulator over integer values is the raw fold over their double images -/
theorem sumF64_intVal (ks : List Int) : sumF64 (ks.map intVal) = (ks.map intF64).foldl F64.add F64.zero := by
  unfold sumF64
  rw [List.foldl_map, List.foldl_map]
  rfl

theorem allInt_of_bound (ks : List Int) (h : (ks.map Int.natAbs).sum ≤ 2^53) :
    AllInt (ks.map intF64) ks :=
  allInt_intF64 ks fun _ hk => Nat.le_trans (nat_le_sum_of_mem (List.mem_map_of_mem hk)) h

/-- the accumulator of `sum` over integers totalling at most 2^53 in absolute value holds the exact sum -/
theorem sumF64_ints (ks : List Int) (h : (ks.map Int.natAbs).sum ≤ 2^53) :
    IsInt (sumF64 (ks.map intVal)) ks.sum := by
  rw [sumF64_intVal]
  have := foldl_add_isInt (ks.map intF64) ks zero 0 isInt_zero (allInt_of_bound ks h) (by simpa using h)
  rw [Int.zero_add] at this
  exact this

/-- **sum is exact on integers**: as long as the absolute values total at most 2^53 (no rounding can occur) -/
theorem sum_ints (ks : List Int) (h : (ks.map Int.natAbs).sum ≤ 2^53) :
    ∃ r : F64, Builtin.pure .sum [.arr (ks.map intVal)] = .ok (.num (.flt r)) ∧
      r.toRat = ((ks.sum : Int) : Rat) := by
  have hs := sumF64_ints ks h
  refine ⟨sumF64 (ks.map intVal), ?_, hs.2⟩
  rw [sum_eq, numOfF64, if_pos hs.1]

theorem avg_ints_eq (ks : List Int) (hne : ks ≠ []) :
    Builtin.pure .avg [.arr (ks.map intVal)] =
      numOfF64 (F64.div ((ks.map intF64).foldl F64.add F64.zero) (F64.ofNat (ks.map intF64).length))
        "Expected to be a valid f64" := by
  rw [avg_nonempty _ (by simpa using hne), sumF64_intVal, List.length_map, List.length_map]

/-- the mean of integers totalling at most 2^53 in absolute value is at most 2^53 in absolute value -/
theorem absq_mean_le (ks : List Int) (hne : ks ≠ []) (h : (ks.map Int.natAbs).sum ≤ 2^53) :
    absq (((ks.sum : Int) : Rat) / (ks.length : Rat)) ≤ pow2 53 := by
  have hlen : 0 < ks.length := List.length_pos_iff.2 hne
  have hL : (1 : Rat) ≤ (ks.length : Rat) := by exact_mod_cast hlen
  have hL0 : (0 : Rat) < (ks.length : Rat) := by exact_mod_cast hlen
  have hinv : (0 : Rat) < (ks.length : Rat)⁻¹ := Rat.inv_pos.2 hL0
  rw [Rat.div_def, absq_mul_pos _ hinv, absq_intCast]
  have hb : ((ks.sum.natAbs : Nat) : Rat) ≤ pow2 53 := by
    rw [show (53 : Int) = ((53 : Nat) : Int) from rfl, pow2_natCast]
    exact_mod_cast Nat.le_trans (natAbs_sum_le ks) h
  have h0 : (0 : Rat) ≤ ((ks.sum.natAbs : Nat) : Rat) := by exact_mod_cast Nat.zero_le _
  have hinv1 : (ks.length : Rat)⁻¹ ≤ 1 := by
    have : (ks.length : Rat)⁻¹ * (ks.length : Rat) = 1 := Rat.inv_mul_cancel _ (by grind)
    have h2 : (ks.length : Rat)⁻¹ * 1 ≤ (ks.length : Rat)⁻¹ * (ks.length : Rat) :=
      Rat.mul_le_mul_of_nonneg_left hL (Rat.le_of_lt hinv)
    grind
  have : ((ks.sum.natAbs : Nat) : Rat) * (ks.length : Rat)⁻¹ ≤ ((ks.sum.natAbs : Nat) : Rat) * 1 :=
    Rat.mul_le_mul_of_nonneg_left hinv1 h0
  grind

/-- **avg of integers is the correctly rounded exact mean** -/
theorem avg_ints (ks : List Int) (hne : ks ≠ []) (h : (ks.map Int.natAbs).sum ≤ 2^53)
    (hl : ks.length ≤ 2^53) :
    ∃ r : F64, Builtin.pure .avg [.arr (ks.map intVal)] = .ok (.num (.flt r)) ∧
      F64.IEEERounded (((ks.sum : Int) : Rat) / (ks.length : Rat)) r := by
  have hlen : 0 < ks.length := List.length_pos_iff.2 hne
  have hr := avg_ieee ⟨allInt_of_bound ks h, h, by simpa using hlen, by simpa using hl⟩
  rw [show ((ks.map intF64).length : Rat) = (ks.length : Rat) by rw [List.length_map]] at hr
  refine ⟨_, ?_, hr⟩
  rw [avg_ints_eq ks hne, numOfF64, if_pos]
  have h1 := absq_mean_le ks hne h
  have h2 : pow2 53 < pow2 1024 - pow2 970 := Std.lt_trans (pow2_lt_pow2 (by decide)) pow2_1023_lt_overflow
  exact hr.2.2.2 (by grind)

theorem avg_ints_exact (ks : List Int) (hne : ks ≠ []) (h : (ks.map Int.natAbs).sum ≤ 2^53)
    (hl : ks.length ≤ 2^53) (m : Int) (hm : ks.sum = m * ks.length) (hmb : m.natAbs ≤ 2^53) :
    ∃ r : F64, Builtin.pure .avg [.arr (ks.map intVal)] = .ok (.num (.flt r)) ∧ r.toRat = (m : Rat) := by
  have hlen : 0 < ks.length := List.length_pos_iff.2 hne
  have hr := avg_exact ⟨allInt_of_bound ks h, h, by simpa using hlen, by simpa using hl⟩
    (k := m) (by simpa using hm) hmb
  refine ⟨_, ?_, hr.2⟩
  rw [avg_ints_eq ks hne, numOfF64, if_pos hr.1]

/-- in general (any finite numbers) each step of `sum` is one IEEE rounding of the exact partial sum -/
theorem sum_step (acc : F64) (v : Val) (n : Num) (hv : v = .num n) (ha : acc.isFinite)
    (hn : n.toF64.isFinite) :
    F64.IEEERounded (acc.toRat + n.toF64.toRat) (F64.add acc ((valNum v).getD F64.zero)) := by
  subst hv
  exact add_ieee acc n.toF64 ha hn

end JmesVerif

#print axioms JmesVerif.sum_ints
#print axioms JmesVerif.avg_ints
#print axioms JmesVerif.avg_ints_exact
#print axioms JmesVerif.sum_step
#print axioms JmesVerif.sumF64_ints
