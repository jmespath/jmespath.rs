import JmesVerif.Model.F64

/-
Numeric contracts of the binary64 model (`JmesVerif/Model/F64.lean`), proved against the IEEE-754
*definition* (exact rational value, one round-to-nearest-even) rather than against hardware:
`roundPos` is correct rounding with overflow exactly from `2^1024 − 2^970` on and the identity on
representable values; `+ - * /`, `ofRat`, `ofInt` are the exact result rounded once (`IEEERounded`);
`abs`, `neg`, `floor`, `ceil` are exact; on small integers `sum` is exact and `avg` is correctly rounded
(`avg_ieee`; exact when the mean is an integer).  The comparisons `flt`/`feq`/`fle` are those of the exact values.
-/
namespace JmesVerif
namespace F64

/-- integer powers of a natural base as `pow2` and `JsonPrint.pow10` spell them out -/
theorem natpow_eq_zpow (b : Nat) (e : Int) :
    (if e ≥ 0 then ((b ^ e.toNat : Nat) : Rat) else 1 / ((b ^ (-e).toNat : Nat) : Rat)) = (b : Rat) ^ e := by
  split
  · rename_i h
    obtain ⟨n, rfl⟩ := Int.eq_ofNat_of_zero_le h
    simp [Rat.zpow_natCast]
  · rename_i h
    obtain ⟨n, hn⟩ : ∃ n : Nat, e = -(n : Int) := ⟨(-e).toNat, by omega⟩
    subst hn
    rw [Rat.zpow_neg, Rat.zpow_natCast]
    simp [Rat.div_def]

theorem pow2_eq_zpow (e : Int) : pow2 e = (2 : Rat) ^ e := natpow_eq_zpow 2 e

theorem pow2_pos (e : Int) : 0 < pow2 e := by
  rw [pow2_eq_zpow]; exact Rat.zpow_pos (by decide)

theorem pow2_add (a b : Int) : pow2 (a + b) = pow2 a * pow2 b := by
  simp only [pow2_eq_zpow]; exact Rat.zpow_add (by decide) a b

theorem pow2_natCast (n : Nat) : pow2 (n : Int) = ((2 ^ n : Nat) : Rat) := by
  simp [pow2]

theorem pow2_zero : pow2 0 = 1 := by simp [pow2]

theorem pow2_one : pow2 1 = 2 := by simp [pow2]

theorem pow2_neg_one : pow2 (-1) = 1/2 := by simp [pow2]

theorem pow2_succ (e : Int) : pow2 (e + 1) = 2 * pow2 e := by
  rw [pow2_add, pow2_one, Rat.mul_comm]

theorem pow2_pred (e : Int) : pow2 (e - 1) = pow2 e * (1/2) := by
  rw [show e - 1 = e + (-1) by omega, pow2_add, pow2_neg_one]

theorem one_le_pow2 {e : Int} (h : 0 ≤ e) : 1 ≤ pow2 e := by
  obtain ⟨n, rfl⟩ := Int.eq_ofNat_of_zero_le h
  rw [pow2_natCast]
  have : 1 ≤ 2 ^ n := Nat.one_le_two_pow
  exact_mod_cast this

theorem pow2_le_pow2 {a b : Int} (h : a ≤ b) : pow2 a ≤ pow2 b := by
  have : b = a + (b - a) := by omega
  rw [this, pow2_add]
  have h1 := one_le_pow2 (e := b - a) (by omega)
  have h2 := pow2_pos a
  have := Rat.mul_le_mul_of_nonneg_left h1 (Rat.le_of_lt h2)
  simpa using this

theorem pow2_lt_pow2 {a b : Int} (h : a < b) : pow2 a < pow2 b := by
  have h1 : pow2 (a+1) ≤ pow2 b := pow2_le_pow2 (by omega)
  rw [pow2_succ] at h1
  have := pow2_pos a
  grind

theorem lt_of_pow2_lt_pow2 {a b : Int} (h : pow2 a < pow2 b) : a < b := by
  apply Decidable.byContradiction; intro hn
  have := pow2_le_pow2 (a := b) (b := a) (by omega)
  grind

theorem le_of_pow2_le_pow2 {a b : Int} (h : pow2 a ≤ pow2 b) : a ≤ b := by
  apply Decidable.byContradiction; intro hn
  have := pow2_lt_pow2 (a := b) (b := a) (by omega)
  grind

theorem natCast_lt_pow2 {M k : Nat} (h : M < 2 ^ k) : (M : Rat) < pow2 k := by
  rw [pow2_natCast]; exact_mod_cast h

theorem pow2_le_natCast {M k : Nat} (h : 2 ^ k ≤ M) : pow2 k ≤ (M : Rat) := by
  rw [pow2_natCast]; exact_mod_cast h

theorem mag_lt {M k : Nat} (h : M < 2 ^ k) (E : Int) : (M : Rat) * pow2 E < pow2 (k + E) := by
  rw [pow2_add]; exact Rat.mul_lt_mul_of_pos_right (natCast_lt_pow2 h) (pow2_pos E)

theorem le_mag {M k : Nat} (h : 2 ^ k ≤ M) (E : Int) : pow2 (k + E) ≤ (M : Rat) * pow2 E := by
  rw [pow2_add]; exact Rat.mul_le_mul_of_nonneg_right (pow2_le_natCast h) (Rat.le_of_lt (pow2_pos E))

theorem mag_pos {M : Nat} (h : M ≠ 0) (E : Int) : 0 < (M : Rat) * pow2 E :=
  Rat.mul_pos (Rat.natCast_pos.2 (Nat.pos_of_ne_zero h)) (pow2_pos E)

theorem nat_mul_pow2 (M : Nat) (k : Nat) : (M : Rat) * pow2 (k : Int) = ((M * 2 ^ k : Nat) : Rat) := by
  rw [pow2_natCast, Rat.natCast_mul]

theorem intCast_two_pow (k : Nat) : (((2 : Int) ^ k : Int) : Rat) = pow2 k := by
  rw [pow2_natCast]; norm_cast

theorem num_toNat_div_den {q : Rat} (hq : 0 < q) : (q.num.toNat : Rat) = q * (q.den : Rat) := by
  have h0 : 0 ≤ q.num := Rat.num_nonneg.2 (Rat.le_of_lt hq)
  have h1 : ((q.num.toNat : Nat) : Int) = q.num := by omega
  have h2 : (q.num.toNat : Rat) = ((q.num : Int) : Rat) := by
    rw [← Rat.intCast_natCast, h1]
  rw [h2]
  have := Rat.mkRat_self q
  rw [Rat.mkRat_eq_div] at this
  have hd : (q.den : Rat) ≠ 0 := by
    simp [q.den_nz]
  have := Rat.div_mul_cancel (a := (q.num : Rat)) hd
  grind

theorem ilog2_spec {q : Rat} (hq : 0 < q) : pow2 (ilog2 q) ≤ q ∧ q < pow2 (ilog2 q + 1) := by
  have hn := num_toNat_div_den hq
  have hd0 : q.den ≠ 0 := q.den_nz
  have hdpos : (0 : Rat) < (q.den : Rat) := Rat.natCast_pos.2 (Nat.pos_of_ne_zero hd0)
  have hn0 : q.num.toNat ≠ 0 := by
    intro h
    have := Rat.mul_pos hq hdpos
    rw [← hn, h] at this
    exact absurd this (by decide)
  unfold ilog2
  generalize q.num.toNat = n at *
  generalize q.den = d at *
  -- with `a`, `b` the logarithms of `n`, `d`: `n < 2^(a+1) ≤ 2^(a-b+1) · d` and `2^(a-b-1) · d < 2^a ≤ n`
  have up : q < pow2 ((n.log2 : Int) - d.log2 + 1) := by
    have h1 := natCast_lt_pow2 (Nat.lt_log2_self (n := n))
    have h2 := le_mag (Nat.log2_self_le hd0) ((n.log2 : Int) - d.log2 + 1)
    rw [show (d.log2 : Int) + ((n.log2 : Int) - d.log2 + 1) = ((n.log2 + 1 : Nat) : Int) by omega] at h2
    apply Rat.lt_of_mul_lt_mul_right (c := (d : Rat)) _ (Rat.le_of_lt hdpos)
    grind
  have lo : pow2 ((n.log2 : Int) - d.log2 - 1) < q := by
    have h1 := pow2_le_natCast (Nat.log2_self_le hn0)
    have h2 := mag_lt (Nat.lt_log2_self (n := d)) ((n.log2 : Int) - d.log2 - 1)
    rw [show ((d.log2 + 1 : Nat) : Int) + ((n.log2 : Int) - d.log2 - 1) = (n.log2 : Int) by omega] at h2
    apply Rat.lt_of_mul_lt_mul_right (c := (d : Rat)) _ (Rat.le_of_lt hdpos)
    grind
  dsimp only
  split
  · exact ⟨by assumption, up⟩
  · refine ⟨Rat.le_of_lt lo, ?_⟩
    rw [Int.sub_add_cancel]; grind


theorem ilog2_lt {q : Rat} {k : Int} (hq : 0 < q) (h2 : q < pow2 k) : ilog2 q < k := by
  obtain ⟨a, b⟩ := ilog2_spec hq
  exact lt_of_pow2_lt_pow2 (by grind)

theorem le_ilog2 {q : Rat} {k : Int} (h2 : pow2 k ≤ q) : k ≤ ilog2 q := by
  have hq : 0 < q := by have := pow2_pos k; grind
  obtain ⟨a, b⟩ := ilog2_spec hq
  have : k < ilog2 q + 1 := lt_of_pow2_lt_pow2 (by grind)
  omega

theorem rat_ge_of_eq {a b : Rat} (h : a = b) : b ≤ a := h ▸ Rat.le_refl

theorem le_div_of_mul_le {a b c : Rat} (hc : 0 < c) (h : a * c ≤ b) : a ≤ b / c :=
  Rat.not_lt.1 fun h' => Rat.not_lt.2 h ((Rat.div_lt_iff hc).1 h')

theorem mul_right_cancel_pos {a b P : Rat} (hP : 0 < P) (h : a * P = b * P) : a = b :=
  Rat.le_antisymm (Rat.le_of_mul_le_mul_right (rat_ge_of_eq h.symm) hP)
    (Rat.le_of_mul_le_mul_right (rat_ge_of_eq h) hP)

/-- the magnitude the model feeds to `roundPos` -/
def absq (q : Rat) : Rat := if q < 0 then -q else q

theorem absq_nonneg (q : Rat) : 0 ≤ absq q := by unfold absq; split <;> grind

theorem absq_eq_abs (q : Rat) : absq q = q.abs := by
  unfold absq Rat.abs; split <;> split <;> grind

theorem absq_neg (q : Rat) : absq (-q) = absq q := by
  unfold absq; split <;> split <;> grind

theorem absq_of_nonneg {a : Rat} (h : 0 ≤ a) : absq a = a := by unfold absq; split <;> grind

theorem absq_sign (a : Rat) (c : Prop) [Decidable c] : absq (if c then -a else a) = absq a := by
  split
  · exact absq_neg a
  · rfl

theorem sign_absq (q : Rat) : (if q < 0 then -absq q else absq q) = q := by
  unfold absq; split
  · exact Rat.neg_neg q
  · rfl

theorem absq_sub_comm (x y : Rat) : absq (x - y) = absq (y - x) := by
  rw [← absq_neg, Rat.neg_sub]

theorem absq_le {x z : Rat} (h1 : x ≤ z) (h2 : -x ≤ z) : absq x ≤ z := by
  unfold absq; split <;> assumption

theorem le_absq (x : Rat) : x ≤ absq x ∧ -x ≤ absq x := by unfold absq; split <;> grind

theorem absq_add_le (u w : Rat) : absq (u + w) ≤ absq u + absq w := by
  have := le_absq u; have := le_absq w
  exact absq_le (by grind) (by grind)

theorem absq_sub_absq_le (y q : Rat) : absq (absq y - absq q) ≤ absq (y - q) := by
  have h1 := absq_add_le (y - q) q
  have h2 := absq_add_le (q - y) y
  rw [Rat.sub_add_cancel] at h1 h2
  rw [absq_sub_comm q y] at h2
  exact absq_le (by grind) (by grind)

theorem absq_sign_sub (a q : Rat) : absq ((if q < 0 then -a else a) - q) = absq (a - absq q) := by
  rw [show absq q = if q < 0 then -q else q from rfl]
  split
  · rw [← absq_neg]; congr 1; grind
  · rfl

theorem eq_or_eq_neg_of_absq_eq {y v : Rat} (h : absq y = absq v) : y = v ∨ y = -v := by
  unfold absq at h; split at h <;> split at h <;> grind

theorem mirror_tie {v q : Rat} (h : absq (v - q) = absq (-v - q)) : v = 0 ∨ q = 0 := by
  unfold absq at h; split at h <;> split at h <;> grind

theorem absq_mul_pos (x : Rat) {P : Rat} (hP : 0 < P) : absq (x * P) = absq x * P := by
  unfold absq
  have := Rat.mul_neg_iff_of_pos_right (a := x) hP
  by_cases hx : x < 0
  · rw [if_pos hx, if_pos (this.2 hx), Rat.neg_mul]
  · rw [if_neg hx, if_neg (fun h => hx (this.1 h))]

theorem absq_scaled {x sc P q : Rat} (hP : 0 < P) (hsc : sc * P = q) :
    absq (x * P - q) = absq (x - sc) * P := by
  rw [← absq_mul_pos _ hP]; congr 1; grind

theorem absq_intCast (n : Int) : absq (n : Rat) = (n.natAbs : Rat) := by
  obtain ⟨k, rfl | rfl⟩ := n.eq_nat_or_neg
  · rw [Rat.intCast_natCast, Int.natAbs_natCast, absq_of_nonneg Rat.natCast_nonneg]
  · rw [Rat.intCast_neg, absq_neg, Rat.intCast_natCast, Int.natAbs_neg, Int.natAbs_natCast,
      absq_of_nonneg Rat.natCast_nonneg]

/-- round-to-nearest-even of a rational to an integer -/
def rne (sc : Rat) : Int :=
  if sc - (sc.floor : Rat) > 1/2 ∨ (sc - (sc.floor : Rat) = 1/2 ∧ sc.floor % 2 = 1) then sc.floor + 1 else sc.floor

theorem rne_spec (sc : Rat) :
    absq ((rne sc : Rat) - sc) ≤ 1/2 ∧ (absq ((rne sc : Rat) - sc) = 1/2 → rne sc % 2 = 0) := by
  have f1 := Rat.floor_le sc
  have f2 := Rat.lt_floor_add_one sc
  rw [Rat.intCast_add] at f2
  unfold rne
  split
  · rename_i hc
    rw [Rat.intCast_add, absq_of_nonneg (by grind)]
    rcases hc with hc | ⟨hc, _⟩
    · exact ⟨by grind, fun h => by have := rat_ge_of_eq h; grind⟩
    · exact ⟨by have := rat_ge_of_eq hc; grind, fun _ => by omega⟩
  · rename_i hc
    rw [absq_sub_comm, absq_of_nonneg (by grind)]
    refine ⟨Rat.not_lt.1 fun h => hc (Or.inl h), fun h => ?_⟩
    have : ¬ sc.floor % 2 = 1 := fun ho => hc (Or.inr ⟨h, ho⟩)
    omega

theorem rne_err (sc : Rat) : (rne sc : Rat) - sc ≤ 1/2 ∧ sc - (rne sc : Rat) ≤ 1/2 := by
  have h := (rne_spec sc).1
  have ⟨l1, l2⟩ := le_absq ((rne sc : Rat) - sc)
  rw [Rat.neg_sub] at l2
  exact ⟨Rat.le_trans l1 h, Rat.le_trans l2 h⟩

theorem intCast_succ_le {a b : Int} (h : a + 1 ≤ b) : (a : Rat) + 1 ≤ (b : Rat) := by
  have : ((a + 1 : Int) : Rat) ≤ (b : Rat) := Rat.intCast_le_intCast.2 h
  rw [Rat.intCast_add] at this
  simpa using this

theorem le_rne {sc : Rat} {a : Int} (h : (a : Rat) ≤ sc) : a ≤ rne sc := by
  apply Decidable.byContradiction; intro hn
  have := intCast_succ_le (a := rne sc) (b := a) (by omega)
  have := (rne_err sc).2
  grind

theorem rne_le {sc : Rat} {b : Int} (h : sc ≤ (b : Rat)) : rne sc ≤ b := by
  apply Decidable.byContradiction; intro hn
  have := intCast_succ_le (a := b) (b := rne sc) (by omega)
  have := (rne_err sc).1
  grind

theorem succ_le_rne {sc : Rat} {n : Int} (h : (n : Rat) + 1/2 ≤ sc) (hodd : n % 2 = 1) :
    n + 1 ≤ rne sc := by
  have hn : n ≤ rne sc := le_rne (by grind)
  apply Decidable.byContradiction; intro hlt
  have e := (rne_err sc).2
  have t := (rne_spec sc).2
  rw [show rne sc = n by omega] at e t
  have := t (by rw [absq_sub_comm, absq_of_nonneg (by grind)]; exact Rat.le_antisymm e (by grind))
  omega

theorem rne_intCast (n : Int) : rne (n : Rat) = n := by
  have h1 : n ≤ rne (n : Rat) := le_rne Rat.le_refl
  have h2 : rne (n : Rat) ≤ n := rne_le Rat.le_refl
  omega

theorem rne_far (sc : Rat) {N : Int} (h : N ≠ rne sc) : 1/2 ≤ absq ((N : Rat) - sc) := by
  have ⟨h1, h2⟩ := rne_err sc
  unfold absq
  rcases Int.lt_or_gt_of_ne h with hlt | hgt
  · have := intCast_succ_le (a := N) (b := rne sc) (by omega)
    split <;> grind
  · have := intCast_succ_le (a := rne sc) (b := N) (by omega)
    split <;> grind

theorem rne_nearest (sc : Rat) (N : Int) : absq ((rne sc : Rat) - sc) ≤ absq ((N : Rat) - sc) := by
  by_cases h : N = rne sc
  · rw [h]; exact Rat.le_refl
  · exact Rat.le_trans (rne_spec sc).1 (rne_far sc h)

theorem rne_tie' (sc : Rat) {N : Int} (hN : N ≠ rne sc)
    (h : absq ((rne sc : Rat) - sc) = absq ((N : Rat) - sc)) : rne sc % 2 = 0 := by
  apply (rne_spec sc).2
  apply Rat.le_antisymm (rne_spec sc).1
  rw [h]; exact rne_far sc hN

/-- the exponent `roundPos` scales by -/
def rexp (q : Rat) : Int := if ilog2 q - 52 < -1074 then -1074 else ilog2 q - 52

/-- the rounded (integer) significand before the carry fix-up -/
def rsig (q : Rat) : Int :=
  let scaled := q / pow2 (rexp q)
  let fl := scaled.floor
  let rem := scaled - (fl : Rat)
  if rem > 1/2 ∨ (rem = 1/2 ∧ fl % 2 = 1) then fl + 1 else fl

theorem rsig_eq (q : Rat) : rsig q = rne (q / pow2 (rexp q)) := rfl

theorem roundPos_zero {q : Rat} (hq : q ≤ 0) : roundPos q = some (0, -1074) := by
  simp [roundPos, hq]

theorem roundPos_eq {q : Rat} (hq : 0 < q) :
    roundPos q =
      if rsig q = 2 ^ 53 then (if rexp q + 1 > 971 then none else some (2 ^ 52, rexp q + 1))
      else if rexp q > 971 then none else some ((rsig q).toNat, rexp q) := by
  unfold roundPos
  rw [if_neg (Rat.not_le.2 hq)]
  show (match (if rsig q = 2 ^ 53 then ((2 ^ 52 : Int), rexp q + 1) else (rsig q, rexp q)) with
    | (m, e) => if e > 971 then none else some (m.toNat, e)) = _
  by_cases h : rsig q = 2 ^ 53
  · rw [if_pos h, if_pos h]; rfl
  · rw [if_neg h, if_neg h]

theorem rexp_cases (q : Rat) :
    (-1074 ≤ ilog2 q - 52 ∧ rexp q = ilog2 q - 52) ∨ (ilog2 q - 52 < -1074 ∧ rexp q = -1074) := by
  unfold rexp; split <;> omega

theorem scaled_mul {q : Rat} : q / pow2 (rexp q) * pow2 (rexp q) = q :=
  Rat.div_mul_cancel (by have := pow2_pos (rexp q); grind)

theorem scaled_pos {q : Rat} (hq : 0 < q) : 0 < q / pow2 (rexp q) := by
  rw [Rat.div_def]; exact Rat.mul_pos hq (Rat.inv_pos.2 (pow2_pos _))

theorem scaled_lt {q : Rat} (hq : 0 < q) : q / pow2 (rexp q) < pow2 53 := by
  rw [Rat.div_lt_iff (pow2_pos _), ← pow2_add]
  exact Std.lt_of_lt_of_le (ilog2_spec hq).2 (pow2_le_pow2 (by have := rexp_cases q; omega))

theorem scaled_ge {q : Rat} (hq : 0 < q) : pow2 52 ≤ q / pow2 (rexp q) ∨ rexp q = -1074 := by
  rcases rexp_cases q with ⟨_, he⟩ | ⟨_, he⟩
  · left; apply le_div_of_mul_le (pow2_pos _)
    rw [← pow2_add, he, show (52 : Int) + (ilog2 q - 52) = ilog2 q by omega]
    exact (ilog2_spec hq).1
  · exact Or.inr he

theorem rsig_bounds {q : Rat} (hq : 0 < q) :
    0 ≤ rsig q ∧ rsig q ≤ 2 ^ 53 ∧ (2 ^ 52 ≤ rsig q ∨ rexp q = -1074) := by
  rw [rsig_eq]
  refine ⟨le_rne (Rat.le_of_lt (scaled_pos hq)), rne_le ?_, (scaled_ge hq).imp_left fun h => le_rne ?_⟩
  · rw [intCast_two_pow]; exact Rat.le_of_lt (scaled_lt hq)
  · rw [intCast_two_pow]; exact h

theorem rsig_err {q : Rat} :
    (rsig q : Rat) * pow2 (rexp q) - q ≤ pow2 (rexp q - 1) ∧
    q - (rsig q : Rat) * pow2 (rexp q) ≤ pow2 (rexp q - 1) := by
  have ⟨h1, h2⟩ := rne_err (q / pow2 (rexp q))
  have hP := Rat.le_of_lt (pow2_pos (rexp q))
  have a := Rat.mul_le_mul_of_nonneg_right h1 hP
  have b := Rat.mul_le_mul_of_nonneg_right h2 hP
  have hsc := scaled_mul (q := q)
  rw [pow2_pred, rsig_eq]
  grind

/-- canonical (significand, exponent) pairs -/
def CanonME (m : Nat) (e : Int) : Prop :=
  (m = 0 ∧ e = -1074) ∨ (m < 2^52 ∧ e = -1074) ∨ (2^52 ≤ m ∧ m < 2^53 ∧ -1074 ≤ e ∧ e ≤ 971)

/-- canonical doubles -/
def Canon : F64 → Prop
  | .fin _ m e => (m = 0 ∧ e = -1074) ∨ (m < 2^52 ∧ e = -1074) ∨ (2^52 ≤ m ∧ m < 2^53 ∧ -1074 ≤ e ∧ e ≤ 971)
  | _ => True

theorem canon_fin (s : Bool) (m : Nat) (e : Int) : Canon (.fin s m e) ↔ CanonME m e := Iff.rfl

theorem CanonME.lt {m : Nat} {e : Int} (h : CanonME m e) : m < 2^53 ∧ -1074 ≤ e ∧ e ≤ 971 := by
  rcases h with ⟨h, he⟩ | ⟨h, he⟩ | ⟨h1, h2, h3, h4⟩ <;> omega

theorem CanonME.exp_of_zero {e : Int} (h : CanonME 0 e) : e = -1074 := by
  rcases h with ⟨_, h⟩ | ⟨_, h⟩ | ⟨h, _⟩
  · exact h
  · exact h
  · simp at h

/-- What `roundPos` does with a positive rational: it overflows when the scaling exponent is beyond
the last binade or the significand rounds up to `2^53` there; otherwise it returns a canonical pair
denoting the rounded significand times the scaling unit. -/
theorem roundPos_pos {q : Rat} (hq : 0 < q) :
    (roundPos q = none ∧ (971 < rexp q ∨ (rexp q = 971 ∧ rsig q = 2 ^ 53))) ∨
    ∃ m e, roundPos q = some (m, e) ∧ CanonME m e ∧ rexp q ≤ e ∧
      (m : Rat) * pow2 e = (rsig q : Rat) * pow2 (rexp q) ∧ (rsig q % 2 = 0 → m % 2 = 0) := by
  have ⟨b0, b1, b2⟩ := rsig_bounds hq
  have hE := rexp_cases q
  rw [roundPos_eq hq]
  by_cases hr : rsig q = 2 ^ 53
  · rw [if_pos hr]
    by_cases he : rexp q + 1 > 971
    · rw [if_pos he]; exact Or.inl ⟨rfl, by omega⟩
    · rw [if_neg he]
      refine Or.inr ⟨_, _, rfl, Or.inr (Or.inr ⟨Nat.le_refl _, by decide, by omega, by omega⟩),
        by omega, ?_, fun _ => by decide⟩
      -- the carry: `2^52 · 2^(E+1) = 2^53 · 2^E`
      rw [hr, intCast_two_pow, ← pow2_natCast, ← pow2_add, ← pow2_add]; congr 1; omega
  · rw [if_neg hr]
    by_cases he : rexp q > 971
    · rw [if_pos he]; exact Or.inl ⟨rfl, Or.inl he⟩
    · rw [if_neg he]
      have hcast : (((rsig q).toNat : Nat) : Rat) = ((rsig q : Int) : Rat) := by
        rw [← Rat.intCast_natCast, Int.toNat_of_nonneg b0]
      refine Or.inr ⟨_, _, rfl, ?_, Int.le_refl _, by rw [hcast], fun _ => by omega⟩
      by_cases hlt : rsig q < 2 ^ 52
      · exact Or.inr (Or.inl ⟨by omega, by omega⟩)
      · exact Or.inr (Or.inr ⟨by omega, by omega, by omega, by omega⟩)

theorem roundPos_val {q : Rat} (hq : 0 < q) {m : Nat} {e : Int} (h : roundPos q = some (m, e)) :
    CanonME m e ∧ rexp q ≤ e ∧
      (m : Rat) * pow2 e = (rsig q : Rat) * pow2 (rexp q) ∧ (rsig q % 2 = 0 → m % 2 = 0) := by
  rcases roundPos_pos hq with ⟨h', _⟩ | ⟨_, _, h', r⟩ <;> rw [h'] at h <;> cases h
  exact r

/-- Correct rounding: a result of `roundPos` is canonical and within half an ulp of `q`. -/
theorem roundPos_some {q : Rat} (hq : 0 ≤ q) {m : Nat} {e : Int} (h : roundPos q = some (m, e)) :
    CanonME m e ∧ (m : Rat) * pow2 e - q ≤ pow2 (e - 1) ∧ q - (m : Rat) * pow2 e ≤ pow2 (e - 1) := by
  rcases Rat.le_iff_lt_or_eq.1 hq with hpos | rfl
  · have ⟨hc, hle, hv, _⟩ := roundPos_val hpos h
    have ⟨e1, e2⟩ := rsig_err (q := q)
    have := pow2_le_pow2 (show rexp q - 1 ≤ e - 1 by omega)
    rw [hv]
    exact ⟨hc, Rat.le_trans e1 this, Rat.le_trans e2 this⟩
  · rw [roundPos_zero Rat.le_refl] at h; cases h
    have := Rat.le_of_lt (pow2_pos (-1074 - 1))
    exact ⟨Or.inl ⟨rfl, rfl⟩, by simpa [Rat.sub_self] using this, by simpa [Rat.sub_self] using this⟩

/-- `roundPos` overflows only at or above the IEEE overflow threshold
`2^1024 − 2^970` (the midpoint between `f64::MAX` and `2^1024`). -/
theorem roundPos_none {q : Rat} (h : roundPos q = none) : pow2 1024 - pow2 970 ≤ q := by
  by_cases h0 : q ≤ 0
  · rw [roundPos_zero h0] at h; cases h
  · have hpos : 0 < q := Rat.not_le.1 h0
    rcases roundPos_pos hpos with ⟨_, he | ⟨he, hr⟩⟩ | ⟨m, e, h', _⟩
    · -- beyond the last binade: `q ≥ 2^1024`
      have := pow2_le_pow2 (show 1024 ≤ ilog2 q by have := rexp_cases q; omega)
      have := (ilog2_spec hpos).1
      have := pow2_pos 970
      grind
    · -- rounded up to `2^53` at the top exponent: `2^53 · 2^971 − q ≤ 2^970`
      have := (rsig_err (q := q)).1
      rw [he, hr, intCast_two_pow, ← pow2_add, show ((53 : Nat) : Int) + 971 = 1024 from rfl,
        show (971 : Int) - 1 = 970 from rfl] at this
      grind
    · rw [h'] at h; cases h

theorem pow2_1023_lt_overflow : pow2 1023 < pow2 1024 - pow2 970 := by
  have h1 : pow2 1024 = 2 * pow2 1023 := pow2_succ 1023
  have h2 : pow2 970 < pow2 1023 := pow2_lt_pow2 (by decide)
  grind

/-- **Overflow threshold, converse**: at or above `2^1024 − 2^970` the result is `none` (the tie at
the threshold itself goes to the even neighbour `2^1024`, i.e. to infinity). -/
theorem roundPos_overflow {q : Rat} (h : pow2 1024 - pow2 970 ≤ q) : roundPos q = none := by
  have hT := pow2_1023_lt_overflow
  have hpos : 0 < q := by have := pow2_pos 1023; grind
  have hL : 1023 ≤ ilog2 q := le_ilog2 (by grind)
  have hE := rexp_cases q
  -- in the last binade the scaled value is at least `2^53 − 1/2`, half above an odd integer
  have hR : rexp q = 971 → rsig q = 2 ^ 53 := by
    intro he
    have := (rsig_bounds hpos).2.1
    have : (2 ^ 53 - 1 : Int) + 1 ≤ rsig q := by
      rw [rsig_eq]
      refine succ_le_rne (le_div_of_mul_le (pow2_pos _) ?_) (by decide)
      have a3 : pow2 1024 = pow2 53 * pow2 971 := pow2_add 53 971
      have a4 : pow2 970 = pow2 971 * (1/2) := pow2_pred 971
      rw [he, Rat.intCast_sub, intCast_two_pow]
      grind
    omega
  rw [roundPos_eq hpos]
  split
  · exact if_pos (by omega)
  · rename_i hr
    exact if_pos (by by_cases he : rexp q = 971; exact absurd (hR he) hr; omega)

theorem roundPos_eq_none_iff {q : Rat} : roundPos q = none ↔ pow2 1024 - pow2 970 ≤ q :=
  ⟨roundPos_none, roundPos_overflow⟩

theorem roundPos_of_scaled {q : Rat} (hq : 0 < q) {N : Nat} (hN : q = (N : Rat) * pow2 (rexp q))
    (he : rexp q ≤ 971) : roundPos q = some (N, rexp q) := by
  have hsc : q / pow2 (rexp q) = ((N : Int) : Rat) := by
    rw [Rat.intCast_natCast]
    exact mul_right_cancel_pos (pow2_pos _) (scaled_mul.trans hN)
  have hr : rsig q = (N : Int) := by rw [rsig_eq, hsc, rne_intCast]
  have hlt := scaled_lt hq
  rw [hsc, show pow2 53 = (((2 : Int) ^ 53 : Int) : Rat) from (intCast_two_pow 53).symm,
    Rat.intCast_lt_intCast] at hlt
  rw [roundPos_eq hq, hr, if_neg (by omega), if_neg (by omega), Int.toNat_natCast]

theorem mag_rescale (M : Nat) {q : Rat} {E : Int} (h : rexp q ≤ E) :
    (M : Rat) * pow2 E = ((M * 2 ^ (E - rexp q).toNat : Nat) : Rat) * pow2 (rexp q) := by
  rw [← nat_mul_pow2, Rat.mul_assoc, ← pow2_add]; congr 2; omega

/-- `M·2^E` with `M < 2^53`, `E ≥ -1074`, below `2^1024`, is not rounded, only rescaled to the
exponent of its binade -/
theorem roundPos_mag {M : Nat} {E : Int} (h0 : M ≠ 0) (hM : M < 2^53) (hE : -1074 ≤ E)
    (hlt : (M : Rat) * pow2 E < pow2 1024) :
    rexp ((M : Rat) * pow2 E) ≤ E ∧ roundPos ((M : Rat) * pow2 E) =
      some (M * 2 ^ (E - rexp ((M : Rat) * pow2 E)).toNat, rexp ((M : Rat) * pow2 E)) := by
  have hq := mag_pos h0 E
  have h1 := ilog2_lt hq (mag_lt hM E)
  have h2 := ilog2_lt hq hlt
  have hc := rexp_cases ((M : Rat) * pow2 E)
  have hr : rexp ((M : Rat) * pow2 E) ≤ E := by omega
  exact ⟨hr, roundPos_of_scaled hq (mag_rescale M hr) (by omega)⟩

/-- **Exactness on representable values** (value form): `M·2^E` with `M < 2^53`, `E ≥ -1074`,
below `2^1024`, is returned unchanged. -/
theorem roundPos_repr {M : Nat} {E : Int} (hM : M < 2^53) (hE : -1074 ≤ E)
    (hlt : (M : Rat) * pow2 E < pow2 1024) :
    ∃ m e, roundPos ((M : Rat) * pow2 E) = some (m, e) ∧ (m : Rat) * pow2 e = (M : Rat) * pow2 E := by
  by_cases h0 : M = 0
  · subst h0
    exact ⟨0, -1074, roundPos_zero (by simp), by simp⟩
  · have ⟨hr, h⟩ := roundPos_mag h0 hM hE hlt
    exact ⟨_, _, h, (mag_rescale M hr).symm⟩

/-- **Exactness on representable values** (syntactic form): rounding a canonical pair's value
returns that pair. -/
theorem roundPos_canon {m : Nat} {e : Int} (h : CanonME m e) :
    roundPos ((m : Rat) * pow2 e) = some (m, e) := by
  by_cases h0 : m = 0
  · subst h0
    exact h.exp_of_zero ▸ roundPos_zero (by simp)
  · have ⟨a, b, c⟩ := h.lt
    have ⟨hr, hp⟩ := roundPos_mag h0 a b (Std.lt_of_lt_of_le (mag_lt a e) (pow2_le_pow2 (by omega)))
    -- a canonical pair already has the exponent of its binade
    have hre : rexp ((m : Rat) * pow2 e) = e := by
      have hc := rexp_cases ((m : Rat) * pow2 e)
      rcases h with ⟨h, _⟩ | ⟨_, he⟩ | ⟨h1, _⟩
      · exact absurd h h0
      · omega
      · have := le_ilog2 (le_mag h1 e); omega
    rw [hre] at hp
    simpa using hp

theorem canonME_unique {m m' : Nat} {e e' : Int} (h : CanonME m e) (h' : CanonME m' e')
    (hv : (m : Rat) * pow2 e = (m' : Rat) * pow2 e') : m = m' ∧ e = e' := by
  have a := roundPos_canon h
  have b := roundPos_canon h'
  rw [hv, b] at a
  simp only [Option.some.injEq, Prod.mk.injEq] at a
  exact ⟨a.1.symm, a.2.symm⟩

theorem rsig_nearest {q : Rat} (hq : 0 < q) {m' : Nat} {e' : Int} (hc : CanonME m' e') :
    absq ((rsig q : Rat) * pow2 (rexp q) - q) ≤ absq ((m' : Rat) * pow2 e' - q) ∧
    ((m' : Rat) * pow2 e' ≠ (rsig q : Rat) * pow2 (rexp q) →
      absq ((rsig q : Rat) * pow2 (rexp q) - q) = absq ((m' : Rat) * pow2 e' - q) →
      rsig q % 2 = 0) := by
  have hP := pow2_pos (rexp q)
  have hsc := scaled_mul (q := q)
  rw [rsig_eq]
  by_cases hE : rexp q ≤ e'
  · -- the candidate is an integer multiple of the scaling unit: compare integers
    rw [mag_rescale m' hE, ← Rat.intCast_natCast, absq_scaled hP hsc, absq_scaled hP hsc]
    refine ⟨Rat.mul_le_mul_of_nonneg_right (rne_nearest _ _) (Rat.le_of_lt hP), fun hne heq => ?_⟩
    refine rne_tie' _ ?_ (mul_right_cancel_pos hP heq)
    intro h; rw [h] at hne; exact hne rfl
  · -- the candidate lies below the binade of `q`, whose lower end `2^52 · P` is already nearer
    have h52 : pow2 52 ≤ q / pow2 (rexp q) := (scaled_ge hq).resolve_right (by have := hc.lt; omega)
    have hv' : (m' : Rat) * pow2 e' < pow2 52 * pow2 (rexp q) := by
      rw [← pow2_add]; exact Std.lt_of_lt_of_le (mag_lt hc.lt.1 e') (pow2_le_pow2 (by omega))
    have hlow := Rat.mul_le_mul_of_nonneg_right h52 (Rat.le_of_lt hP)
    rw [hsc] at hlow
    have hnear := Rat.mul_le_mul_of_nonneg_right
      (rne_nearest (q / pow2 (rexp q)) (2 ^ 52)) (Rat.le_of_lt hP)
    rw [← absq_scaled hP hsc, ← absq_scaled hP hsc,
      show (((2 : Int) ^ 52 : Int) : Rat) = pow2 52 from intCast_two_pow 52,
      absq_sub_comm (pow2 52 * _), absq_of_nonneg (a := q - _) (by grind)] at hnear
    rw [absq_sub_comm ((m' : Rat) * _), absq_of_nonneg (a := q - _) (by grind)]
    exact ⟨by grind, fun _ heq => by grind⟩

/-- **Correct rounding, nearest**: no canonical double is strictly nearer to `q` than the result. -/
theorem roundPos_nearest {q : Rat} (hq : 0 ≤ q) {m : Nat} {e : Int} (h : roundPos q = some (m, e))
    {m' : Nat} {e' : Int} (hc : CanonME m' e') :
    absq ((m : Rat) * pow2 e - q) ≤ absq ((m' : Rat) * pow2 e' - q) := by
  rcases Rat.le_iff_lt_or_eq.1 hq with hpos | rfl
  · rw [(roundPos_val hpos h).2.2.1]
    exact (rsig_nearest hpos hc).1
  · rw [roundPos_zero Rat.le_refl] at h; cases h
    rw [show ((0 : Nat) : Rat) = 0 from rfl, Rat.zero_mul, Rat.sub_self, absq_of_nonneg Rat.le_refl]
    exact absq_nonneg _

/-- **Correct rounding, ties to even**: if some other canonical value is exactly as near, the
result's significand is even. -/
theorem roundPos_ties_even {q : Rat} {m : Nat} {e : Int}
    (h : roundPos q = some (m, e)) {m' : Nat} {e' : Int} (hc : CanonME m' e')
    (hne : (m' : Rat) * pow2 e' ≠ (m : Rat) * pow2 e)
    (heq : absq ((m : Rat) * pow2 e - q) = absq ((m' : Rat) * pow2 e' - q)) :
    m % 2 = 0 := by
  by_cases h0 : q ≤ 0
  · rw [roundPos_zero h0] at h; cases h; rfl
  · have hpos := Rat.not_le.1 h0
    have ⟨_, _, hv, hev⟩ := roundPos_val hpos h
    rw [hv] at hne heq
    exact hev ((rsig_nearest hpos hc).2 hne heq)

theorem fin_of_isFinite {x : F64} (h : x.isFinite) : ∃ s m e, x = .fin s m e := by
  cases x with
  | fin s m e => exact ⟨s, m, e, rfl⟩
  | inf s => cases h
  | nan => cases h

theorem toRat_fin (s : Bool) (m : Nat) (e : Int) :
    (F64.fin s m e).toRat = if s then -((m : Rat) * pow2 e) else (m : Rat) * pow2 e := by
  cases s <;> simp [toRat, Rat.neg_mul]

theorem mag_nonneg (m : Nat) (e : Int) : 0 ≤ (m : Rat) * pow2 e :=
  Rat.mul_nonneg Rat.natCast_nonneg (Rat.le_of_lt (pow2_pos e))

theorem toRat_mag (y : F64) : ∃ (m : Nat) (e : Int),
    (y.Canon → CanonME m e) ∧ absq y.toRat = (m : Rat) * pow2 e := by
  cases y with
  | fin s m e =>
    refine ⟨m, e, fun h => h, ?_⟩
    rw [toRat_fin, absq_sign, absq_of_nonneg (mag_nonneg m e)]
  | inf s => exact ⟨0, -1074, fun _ => Or.inl ⟨rfl, rfl⟩, by simp [toRat, absq]⟩
  | nan => exact ⟨0, -1074, fun _ => Or.inl ⟨rfl, rfl⟩, by simp [toRat, absq]⟩

theorem neg_spec (x : F64) : (neg x).isFinite = x.isFinite ∧ (neg x).toRat = -x.toRat := by
  cases x with
  | fin s m e => cases s <;> simp [neg, isFinite, toRat, Rat.neg_mul]
  | inf s => simp [neg, isFinite, toRat]
  | nan => simp [neg, isFinite, toRat]

theorem neg_canon (x : F64) (h : x.Canon) : (neg x).Canon := by
  cases x <;> simp_all [neg, Canon]

theorem abs_spec (x : F64) (h : x.isFinite) :
    (abs x).isFinite ∧ (abs x).toRat = x.toRat.abs := by
  obtain ⟨s, m, e, rfl⟩ := fin_of_isFinite h
  refine ⟨rfl, ?_⟩
  rw [← absq_eq_abs, toRat_fin, absq_sign, absq_of_nonneg (mag_nonneg m e), abs, toRat_fin]; rfl

theorem abs_spec' (x : F64) (h : x.isFinite) :
    (abs x).isFinite ∧ (abs x).toRat = (if x.toRat < 0 then -x.toRat else x.toRat) := by
  rw [(abs_spec x h).2, ← absq_eq_abs]; exact ⟨(abs_spec x h).1, rfl⟩

theorem abs_canon (x : F64) (h : x.Canon) : (abs x).Canon := by
  cases x <;> simp_all [abs, Canon]

theorem ofRatSigned_cases (z : Bool) (q : Rat) :
    (roundPos (absq q) = none ∧ ofRatSigned z q = .inf (decide (q < 0))) ∨
    (∃ m e, roundPos (absq q) = some (m, e) ∧ ∃ s, ofRatSigned z q = .fin s m e ∧
      (s = if m = 0 then z else decide (q < 0)) ∧
      (F64.fin s m e).toRat = if q < 0 then -((m : Rat) * pow2 e) else (m : Rat) * pow2 e) := by
  unfold ofRatSigned
  rw [show (if q < 0 then -q else q) = absq q from rfl]
  cases hr : roundPos (absq q) with
  | none => exact Or.inl ⟨rfl, rfl⟩
  | some me =>
    obtain ⟨m, e⟩ := me
    right
    cases m with
    | zero =>
      have := (roundPos_some (absq_nonneg q) hr).1.exp_of_zero
      subst this
      refine ⟨0, -1074, rfl, z, rfl, rfl, ?_⟩
      rw [toRat_fin, show ((0 : Nat) : Rat) = 0 from rfl]
      split <;> split <;> simp
    | succ k =>
      refine ⟨k + 1, e, rfl, decide (q < 0), rfl, rfl, ?_⟩
      rw [toRat_fin]; simp

theorem ofRat_eq_ofRatSigned (q : Rat) : ofRat q = ofRatSigned (decide (q < 0)) q := by
  unfold ofRat ofRatSigned
  simp only [show (if q < 0 then -q else q) = absq q from rfl]
  cases hr : roundPos (absq q) with
  | none => rfl
  | some me =>
    obtain ⟨m, e⟩ := me
    cases m with
    | zero => simp [(roundPos_some (absq_nonneg q) hr).1.exp_of_zero]
    | succ k => rfl

/-- `r` is a correctly rounded image of the exact value `q`:
a canonical finite double within half a unit in the last place of `q` carrying `q`'s sign
(a zero result may carry either sign), or the infinity of `q`'s sign when `|q|` is at or beyond the
IEEE overflow threshold `2^1024 − 2^970`. -/
def CorrectlyRounded (q : Rat) (r : F64) : Prop :=
  r.Canon ∧
  match r with
  | .fin s m e =>
      (F64.fin s m e).toRat - q ≤ pow2 (e - 1) ∧ q - (F64.fin s m e).toRat ≤ pow2 (e - 1) ∧
      (m ≠ 0 → s = decide (q < 0))
  | .inf s => s = decide (q < 0) ∧ pow2 1024 - pow2 970 ≤ absq q
  | .nan => False

theorem ofRatSigned_correct (z : Bool) (q : Rat) : CorrectlyRounded q (ofRatSigned z q) := by
  rcases ofRatSigned_cases z q with ⟨hr, h'⟩ | ⟨m, e, hr, s, h', hs, hv⟩
  · rw [h']; exact ⟨trivial, rfl, roundPos_none hr⟩
  · rw [h']
    have ⟨c, e1, e2⟩ := roundPos_some (absq_nonneg q) hr
    -- the error is that of the magnitudes, which `roundPos` bounds by half an ulp
    have hd : absq ((F64.fin s m e).toRat - q) ≤ pow2 (e - 1) := by
      rw [hv, absq_sign_sub]; exact absq_le e1 (by rw [Rat.neg_sub]; exact e2)
    have ⟨l1, l2⟩ := le_absq ((F64.fin s m e).toRat - q)
    rw [Rat.neg_sub] at l2
    exact ⟨c, Rat.le_trans l1 hd, Rat.le_trans l2 hd, fun h => by rw [hs, if_neg h]⟩

/-- **`ofRatSigned` rounds to nearest, ties to even**: a finite result is at least as near to the exact
value as any canonical double, and if another canonical double is exactly as near, the result's
significand is even. -/
theorem ofRatSigned_nearest_even (z : Bool) (q : Rat) {s : Bool} {m : Nat} {e : Int}
    (h : ofRatSigned z q = .fin s m e) (y : F64) (hy : y.Canon) :
    absq ((F64.fin s m e).toRat - q) ≤ absq (y.toRat - q) ∧
    (y.toRat ≠ (F64.fin s m e).toRat →
      absq ((F64.fin s m e).toRat - q) = absq (y.toRat - q) → m % 2 = 0) := by
  rcases ofRatSigned_cases z q with ⟨_, h'⟩ | ⟨m₁, e₁, hr, s₁, h', _, hv⟩ <;> rw [h'] at h <;> cases h
  obtain ⟨m', e', hc, hyv⟩ := toRat_mag y
  have N := roundPos_nearest (absq_nonneg q) hr (hc hy)
  have R := absq_sub_absq_le y.toRat q
  rw [hyv] at R
  generalize (F64.fin s m e).toRat = v at hv ⊢
  -- the result lies on `q`'s side of zero, so its distance from `q` is that of the magnitudes
  have hd : absq (v - q) = absq ((m : Rat) * pow2 e - absq q) := by rw [hv, absq_sign_sub]
  rw [hd]
  refine ⟨Rat.le_trans N R, fun hne heq => ?_⟩
  by_cases hm : (m' : Rat) * pow2 e' = (m : Rat) * pow2 e
  · -- equal magnitudes but different values: `y` is the mirror image of the result, so `q = 0`
    have hyv' : absq y.toRat = absq v := by
      rw [hyv, hm, hv, absq_sign, absq_of_nonneg (mag_nonneg m e)]
    rcases eq_or_eq_neg_of_absq_eq hyv' with h1 | h1
    · exact absurd h1 hne
    · rw [← hd, h1] at heq
      rcases mirror_tie heq with h2 | h2
      · rw [h1, h2] at hne; exact absurd Rat.neg_zero hne
      · rw [h2, absq_of_nonneg Rat.le_refl, roundPos_zero Rat.le_refl] at hr
        cases hr; rfl
  · -- otherwise the magnitudes tie as well
    exact roundPos_ties_even hr (hc hy) hm (Rat.le_antisymm N (heq ▸ R))

/-- `ofRatSigned` overflows exactly from the IEEE threshold on. -/
theorem ofRatSigned_inf_iff (z : Bool) (q : Rat) :
    ofRatSigned z q = .inf (decide (q < 0)) ↔ pow2 1024 - pow2 970 ≤ absq q := by
  rw [← roundPos_eq_none_iff]
  rcases ofRatSigned_cases z q with ⟨h1, h2⟩ | ⟨m, e, hr, s, h', _⟩
  · simp [h1, h2]
  · simp [hr, h']

theorem ofRatSigned_finite_iff (z : Bool) (q : Rat) :
    (ofRatSigned z q).isFinite = true ↔ absq q < pow2 1024 - pow2 970 := by
  rw [← Rat.not_le, ← roundPos_eq_none_iff]
  rcases ofRatSigned_cases z q with ⟨h1, h2⟩ | ⟨m, e, hr, s, h', _⟩
  · simp [h1, h2, isFinite]
  · simp [hr, h', isFinite]

/-- `r` is *the* IEEE-754 round-to-nearest-even image of the exact value `q` (up to the sign of a
zero result): correctly rounded in the half-ulp sense, nearest among all canonical doubles, with ties
resolved to the even significand, and infinite exactly when `|q| ≥ 2^1024 − 2^970`. -/
def IEEERounded (q : Rat) (r : F64) : Prop :=
  CorrectlyRounded q r ∧
  (∀ s m e, r = .fin s m e → ∀ y : F64, y.Canon →
      absq ((F64.fin s m e).toRat - q) ≤ absq (y.toRat - q) ∧
      (y.toRat ≠ (F64.fin s m e).toRat →
        absq ((F64.fin s m e).toRat - q) = absq (y.toRat - q) → m % 2 = 0)) ∧
  (r.isFinite = true ↔ absq q < pow2 1024 - pow2 970)

theorem ofRatSigned_ieee (z : Bool) (q : Rat) : IEEERounded q (ofRatSigned z q) :=
  ⟨ofRatSigned_correct z q,
   fun _ _ _ h y hy => ofRatSigned_nearest_even z q h y hy,
   ofRatSigned_finite_iff z q⟩

theorem ofRat_ieee (q : Rat) : IEEERounded q (ofRat q) := by
  rw [ofRat_eq_ofRatSigned]; exact ofRatSigned_ieee _ q

theorem ofRat_correct (q : Rat) : CorrectlyRounded q (ofRat q) := by
  rw [ofRat_eq_ofRatSigned]; exact ofRatSigned_correct _ q

theorem ofRatSigned_canon (z : Bool) (q : Rat) : (ofRatSigned z q).Canon := (ofRatSigned_correct z q).1

theorem ofRat_canon (q : Rat) : (ofRat q).Canon := (ofRat_correct q).1

/-- `q` is (the value of) a finite double: `|q| = M·2^E` with `M < 2^53`, `-1074 ≤ E ≤ 971` -/
def Representable (q : Rat) : Prop :=
  ∃ (M : Nat) (E : Int), M < 2^53 ∧ -1074 ≤ E ∧ E ≤ 971 ∧ absq q = (M : Rat) * pow2 E

theorem Representable.neg {q : Rat} (h : Representable q) : Representable (-q) := by
  obtain ⟨M, E, h1, h2, h3, h4⟩ := h
  exact ⟨M, E, h1, h2, h3, by rw [absq_neg, h4]⟩

theorem ofRatSigned_exact (z : Bool) {q : Rat} (h : Representable q) :
    (ofRatSigned z q).isFinite ∧ (ofRatSigned z q).toRat = q := by
  obtain ⟨M, E, h1, h2, h3, h4⟩ := h
  obtain ⟨m, e, hr, hme⟩ :=
    roundPos_repr h1 h2 (Std.lt_of_lt_of_le (mag_lt h1 E) (pow2_le_pow2 (by omega)))
  rw [← h4] at hr hme
  rcases ofRatSigned_cases z q with ⟨hr', _⟩ | ⟨m', e', hr', s, h', _, hv⟩ <;> rw [hr] at hr' <;> cases hr'
  rw [h', hv, hme]
  exact ⟨rfl, sign_absq q⟩

theorem ofRat_exact {q : Rat} (h : Representable q) :
    (ofRat q).isFinite ∧ (ofRat q).toRat = q := by
  rw [ofRat_eq_ofRatSigned]; exact ofRatSigned_exact _ h

theorem representable_toRat (x : F64) (hc : x.Canon) : Representable x.toRat := by
  obtain ⟨m, e, hm, hv⟩ := toRat_mag x
  have ⟨a, b, c⟩ := (hm hc).lt
  exact ⟨m, e, a, b, c, hv⟩

theorem representable_int (n : Int) (h : n.natAbs ≤ 2^53) : Representable (n : Rat) := by
  rw [Representable, absq_intCast]
  by_cases h' : n.natAbs < 2^53
  · exact ⟨n.natAbs, 0, h', by decide, by decide, by rw [pow2_zero, Rat.mul_one]⟩
  · refine ⟨2^52, 1, by decide, by decide, by decide, ?_⟩
    rw [show n.natAbs = 2^53 by omega, pow2_one]
    exact_mod_cast (by decide : (2 ^ 53 : Nat) = 2 ^ 52 * 2)

theorem floor_signed_mag (c : Prop) [Decidable c] (M k : Nat) :
    (((if c then -((M : Rat) * pow2 k) else (M : Rat) * pow2 k).floor : Int) : Rat) =
      if c then -((M : Rat) * pow2 k) else (M : Rat) * pow2 k := by
  rw [nat_mul_pow2, ← Rat.intCast_natCast, ← Rat.intCast_neg]
  split <;> rw [Rat.floor_intCast]

theorem floor_representable {q : Rat} (h : Representable q) : Representable (q.floor : Rat) := by
  obtain ⟨M, E, h1, h2, h3, h4⟩ := h
  by_cases hE : 0 ≤ E
  · -- `q` is an integer
    obtain ⟨k, rfl⟩ := Int.eq_ofNat_of_zero_le hE
    rw [show (q.floor : Rat) = q by rw [← sign_absq q, h4]; exact floor_signed_mag _ M k]
    exact ⟨M, (k : Int), h1, h2, h3, h4⟩
  · -- `|q| < 2^52`, so the floor is an integer of magnitude at most `2^52`
    apply representable_int
    have hlt : absq q < pow2 52 := h4 ▸ Std.lt_of_lt_of_le (mag_lt h1 E) (pow2_le_pow2 (by omega))
    have ⟨l1, l2⟩ := le_absq q
    rw [show pow2 52 = (((2 : Int) ^ 52 : Int) : Rat) from (intCast_two_pow 52).symm] at hlt
    have u : q.floor < 2 ^ 52 := Rat.floor_lt_iff.2 (Std.lt_of_le_of_lt l1 hlt)
    have l : -2 ^ 52 ≤ q.floor := Rat.le_floor_iff.2 (by rw [Rat.intCast_neg]; grind)
    omega

theorem floor_spec (x : F64) (hc : x.Canon) (h : x.isFinite) :
    (floor x).isFinite ∧ (floor x).toRat = (x.toRat.floor : Rat) := by
  obtain ⟨s, m, e, rfl⟩ := fin_of_isFinite h
  exact ofRatSigned_exact s (floor_representable (representable_toRat _ hc))

theorem ceil_spec (x : F64) (hc : x.Canon) (h : x.isFinite) :
    (ceil x).isFinite ∧ (ceil x).toRat = ((-((-x.toRat).floor) : Int) : Rat) := by
  obtain ⟨s, m, e, rfl⟩ := fin_of_isFinite h
  have := (floor_representable (representable_toRat _ hc).neg).neg
  rw [← Rat.intCast_neg] at this
  exact ofRatSigned_exact s this

theorem ceil_spec' (x : F64) (hc : x.Canon) (h : x.isFinite) :
    (ceil x).isFinite ∧ (ceil x).toRat = (x.toRat.ceil : Rat) := by
  rw [Rat.ceil_eq_neg_floor_neg]; exact ceil_spec x hc h

theorem floor_canon (x : F64) (h : x.Canon) : (floor x).Canon := by
  cases x with
  | fin s m e => exact ofRatSigned_canon _ _
  | inf s => exact h
  | nan => exact h

theorem ceil_canon (x : F64) (h : x.Canon) : (ceil x).Canon := by
  cases x with
  | fin s m e => exact ofRatSigned_canon _ _
  | inf s => exact h
  | nan => exact h

theorem ofRatSigned_toRat (s : Bool) (m : Nat) (e : Int) (hc : (F64.fin s m e).Canon) :
    ofRatSigned s (F64.fin s m e).toRat = .fin s m e := by
  have habs : absq (F64.fin s m e).toRat = (m : Rat) * pow2 e := by
    rw [toRat_fin, absq_sign, absq_of_nonneg (mag_nonneg m e)]
  rcases ofRatSigned_cases s (F64.fin s m e).toRat with ⟨hr, _⟩ | ⟨m', e', hr, s', h', hs, _⟩ <;>
    rw [habs, roundPos_canon hc] at hr <;> cases hr
  rw [h', hs]; congr 1
  split
  · rfl
  · rename_i hm
    have hpos := mag_pos hm e
    rw [toRat_fin]
    cases s <;> simp <;> grind

theorem floor_toRat_of_nonneg_exp (s : Bool) (m : Nat) (e : Int) (he : 0 ≤ e) :
    (((F64.fin s m e).toRat.floor : Int) : Rat) = (F64.fin s m e).toRat := by
  obtain ⟨k, rfl⟩ := Int.eq_ofNat_of_zero_le he
  rw [toRat_fin]
  exact floor_signed_mag _ m k

/-- a canonical double with a non-negative exponent is an integer: `floor` and `ceil` return it
unchanged (sign of zero included) -/
theorem floor_of_nonneg_exp (s : Bool) (m : Nat) (e : Int) (hc : (F64.fin s m e).Canon)
    (he : 0 ≤ e) : floor (.fin s m e) = .fin s m e := by
  simp only [floor]
  rw [floor_toRat_of_nonneg_exp s m e he]
  exact ofRatSigned_toRat s m e hc

theorem ceil_of_nonneg_exp (s : Bool) (m : Nat) (e : Int) (hc : (F64.fin s m e).Canon)
    (he : 0 ≤ e) : ceil (.fin s m e) = .fin s m e := by
  simp only [ceil]
  have h1 := (neg_spec (.fin s m e)).2
  simp only [neg] at h1
  rw [← h1, Rat.intCast_neg, floor_toRat_of_nonneg_exp (!s) m e he, h1, Rat.neg_neg]
  exact ofRatSigned_toRat s m e hc

theorem add_eq_ofRatSigned (a b : F64) (ha : a.isFinite) (hb : b.isFinite) :
    add a b = ofRatSigned (a.isNeg && b.isNeg) (a.toRat + b.toRat) := by
  obtain ⟨_, _, _, rfl⟩ := fin_of_isFinite ha
  obtain ⟨_, _, _, rfl⟩ := fin_of_isFinite hb
  rfl

theorem sub_eq_ofRatSigned (a b : F64) (ha : a.isFinite) (hb : b.isFinite) :
    sub a b = ofRatSigned (a.isNeg && (neg b).isNeg) (a.toRat - b.toRat) := by
  rw [sub, add_eq_ofRatSigned a (neg b) ha ((neg_spec b).1.trans hb), (neg_spec b).2,
    ← Rat.sub_eq_add_neg]

theorem mul_eq_ofRatSigned (a b : F64) (ha : a.isFinite) (hb : b.isFinite) :
    mul a b = ofRatSigned (a.isNeg != b.isNeg) (a.toRat * b.toRat) := by
  obtain ⟨_, _, _, rfl⟩ := fin_of_isFinite ha
  obtain ⟨_, _, _, rfl⟩ := fin_of_isFinite hb
  rfl

theorem div_eq_ofRatSigned (a b : F64) (ha : a.isFinite) (hb : b.isFinite) (hz : b.isZero = false) :
    div a b = ofRatSigned (a.isNeg != b.isNeg) (a.toRat / b.toRat) := by
  obtain ⟨_, _, _, rfl⟩ := fin_of_isFinite ha
  obtain ⟨_, _, _, rfl⟩ := fin_of_isFinite hb
  simp only [div, hz]
  rfl

/-- The four arithmetic operations on finite doubles are the exact rational result rounded once. -/
theorem add_ieee (a b : F64) (ha : a.isFinite) (hb : b.isFinite) :
    IEEERounded (a.toRat + b.toRat) (add a b) := by
  rw [add_eq_ofRatSigned a b ha hb]; exact ofRatSigned_ieee _ _

theorem sub_ieee (a b : F64) (ha : a.isFinite) (hb : b.isFinite) :
    IEEERounded (a.toRat - b.toRat) (sub a b) := by
  rw [sub_eq_ofRatSigned a b ha hb]; exact ofRatSigned_ieee _ _

theorem mul_ieee (a b : F64) (ha : a.isFinite) (hb : b.isFinite) :
    IEEERounded (a.toRat * b.toRat) (mul a b) := by
  rw [mul_eq_ofRatSigned a b ha hb]; exact ofRatSigned_ieee _ _

theorem div_ieee (a b : F64) (ha : a.isFinite) (hb : b.isFinite) (hz : b.isZero = false) :
    IEEERounded (a.toRat / b.toRat) (div a b) := by
  rw [div_eq_ofRatSigned a b ha hb hz]; exact ofRatSigned_ieee _ _


theorem sub_correct (a b : F64) (ha : a.isFinite) (hb : b.isFinite) :
    CorrectlyRounded (a.toRat - b.toRat) (sub a b) := (sub_ieee a b ha hb).1

theorem mul_correct (a b : F64) (ha : a.isFinite) (hb : b.isFinite) :
    CorrectlyRounded (a.toRat * b.toRat) (mul a b) := (mul_ieee a b ha hb).1


theorem add_exact (a b : F64) (ha : a.isFinite) (hb : b.isFinite)
    (h : Representable (a.toRat + b.toRat)) :
    (add a b).isFinite ∧ (add a b).toRat = a.toRat + b.toRat := by
  rw [add_eq_ofRatSigned a b ha hb]; exact ofRatSigned_exact _ h

theorem sub_exact (a b : F64) (ha : a.isFinite) (hb : b.isFinite)
    (h : Representable (a.toRat - b.toRat)) :
    (sub a b).isFinite ∧ (sub a b).toRat = a.toRat - b.toRat := by
  rw [sub_eq_ofRatSigned a b ha hb]; exact ofRatSigned_exact _ h

theorem mul_exact (a b : F64) (ha : a.isFinite) (hb : b.isFinite)
    (h : Representable (a.toRat * b.toRat)) :
    (mul a b).isFinite ∧ (mul a b).toRat = a.toRat * b.toRat := by
  rw [mul_eq_ofRatSigned a b ha hb]; exact ofRatSigned_exact _ h

theorem div_exact (a b : F64) (ha : a.isFinite) (hb : b.isFinite) (hz : b.isZero = false)
    (h : Representable (a.toRat / b.toRat)) :
    (div a b).isFinite ∧ (div a b).toRat = a.toRat / b.toRat := by
  rw [div_eq_ofRatSigned a b ha hb hz]; exact ofRatSigned_exact _ h

theorem ofInt_exact (n : Int) (h : n.natAbs ≤ 2^53) :
    (ofInt n).isFinite ∧ (ofInt n).toRat = (n : Rat) :=
  ofRat_exact (representable_int n h)

theorem ofNat_exact (n : Nat) (h : n ≤ 2^53) :
    (ofNat n).isFinite ∧ (ofNat n).toRat = (n : Rat) := by
  have := ofInt_exact (n : Int) (by simpa using h)
  rw [Rat.intCast_natCast] at this
  exact this

theorem ofInt_correct (n : Int) : CorrectlyRounded (n : Rat) (ofInt n) := ofRat_correct _

theorem ofNat_correct (n : Nat) : CorrectlyRounded (n : Rat) (ofNat n) := ofRat_correct _

theorem ofInt_ieee (n : Int) : IEEERounded (n : Rat) (ofInt n) := ofRat_ieee _

theorem ofNat_ieee (n : Nat) : IEEERounded (n : Rat) (ofNat n) := ofRat_ieee _

/-- a finite double holding the integer `n` -/
def IsInt (x : F64) (n : Int) : Prop := x.isFinite ∧ x.toRat = (n : Rat)

theorem isInt_zero : IsInt zero 0 := ⟨rfl, by simp [zero, toRat]⟩

theorem isInt_of_exact {x : F64} {q : Rat} {k : Int} (hq : q = (k : Rat))
    (hx : Representable q → x.isFinite ∧ x.toRat = q) (h : k.natAbs ≤ 2^53) : IsInt x k := by
  subst hq; exact hx (representable_int k h)

theorem add_isInt {a b : F64} {m n : Int} (ha : IsInt a m) (hb : IsInt b n)
    (h : (m + n).natAbs ≤ 2^53) : IsInt (add a b) (m + n) :=
  isInt_of_exact (by rw [ha.2, hb.2, Rat.intCast_add]) (add_exact a b ha.1 hb.1) h

theorem sub_isInt {a b : F64} {m n : Int} (ha : IsInt a m) (hb : IsInt b n)
    (h : (m - n).natAbs ≤ 2^53) : IsInt (sub a b) (m - n) :=
  isInt_of_exact (by rw [ha.2, hb.2, Rat.intCast_sub]) (sub_exact a b ha.1 hb.1) h

theorem mul_isInt {a b : F64} {m n : Int} (ha : IsInt a m) (hb : IsInt b n)
    (h : (m * n).natAbs ≤ 2^53) : IsInt (mul a b) (m * n) :=
  isInt_of_exact (by rw [ha.2, hb.2, Rat.intCast_mul]) (mul_exact a b ha.1 hb.1) h

/-- pointwise `IsInt` -/
inductive AllInt : List F64 → List Int → Prop
  | nil : AllInt [] []
  | cons {x n xs ns} : IsInt x n → AllInt xs ns → AllInt (x :: xs) (n :: ns)

/-- `sum` is exact on small integers: no partial sum can leave `[-2^53, 2^53]`, where `add` is exact. -/
theorem foldl_add_isInt : ∀ (xs : List F64) (ns : List Int) (acc : F64) (a : Int),
    IsInt acc a → AllInt xs ns →
    a.natAbs + (ns.map Int.natAbs).sum ≤ 2^53 →
    IsInt (xs.foldl add acc) (a + ns.sum) := by
  intro xs ns acc a hacc h
  induction h generalizing acc a with
  | nil => intro _; simpa using hacc
  | cons hx _ ih =>
    intro hb
    simp only [List.map_cons, List.sum_cons] at hb
    rw [List.foldl_cons, List.sum_cons, ← Int.add_assoc]
    exact ih _ _ (add_isInt hacc hx (by omega)) (by omega)

theorem toRat_of_isZero {x : F64} (h : x.isZero = true) : x.toRat = 0 := by
  cases x with
  | fin s m e =>
    cases m with
    | zero => simp [toRat]
    | succ k => simp [isZero] at h
  | inf s => rfl
  | nan => rfl

theorem isZero_ofNat {n : Nat} (h0 : 0 < n) (h : n ≤ 2^53) : (ofNat n).isZero = false := by
  cases hz : (ofNat n).isZero with
  | false => rfl
  | true =>
    have := toRat_of_isZero hz
    rw [(ofNat_exact n h).2] at this
    have : n = 0 := by exact_mod_cast this
    omega

theorem AllInt.length_eq {xs : List F64} {ns : List Int} (h : AllInt xs ns) : xs.length = ns.length := by
  induction h with
  | nil => rfl
  | cons _ _ ih => simp [ih]

/-- the lists `avg` is exact on: non-empty, of at most `2^53` doubles holding integers whose absolute
values total at most `2^53` -/
structure SmallInts (xs : List F64) (ns : List Int) : Prop where
  allInt : AllInt xs ns
  sum_le : (ns.map Int.natAbs).sum ≤ 2^53
  pos : 0 < xs.length
  length_le : xs.length ≤ 2^53

theorem avg_operands {xs : List F64} {ns : List Int} (h : SmallInts xs ns) :
    IsInt (xs.foldl add zero) ns.sum ∧
      ((ofNat xs.length).isFinite ∧ (ofNat xs.length).toRat = (xs.length : Rat)) ∧
      (ofNat xs.length).isZero = false := by
  have hs := foldl_add_isInt xs ns zero 0 isInt_zero h.allInt (by simpa using h.sum_le)
  rw [Int.zero_add] at hs
  exact ⟨hs, ofNat_exact xs.length h.length_le, isZero_ofNat h.pos h.length_le⟩

/-- `avg` on small integers, strongest form: the IEEE rounding of the exact mean -/
theorem avg_ieee {xs : List F64} {ns : List Int} (h : SmallInts xs ns) :
    IEEERounded ((ns.sum : Rat) / (xs.length : Rat))
      (div (xs.foldl add zero) (ofNat xs.length)) := by
  have ⟨hs, hn, hz⟩ := avg_operands h
  have := div_ieee _ _ hs.1 hn.1 hz
  rw [hs.2, hn.2] at this
  exact this

/-- **`avg` on small integers**: the model's `sum / length` is the correctly rounded exact mean. -/
theorem avg_correct {xs : List F64} {ns : List Int} (h : AllInt xs ns)
    (hb : (ns.map Int.natAbs).sum ≤ 2^53) (h0 : 0 < xs.length) (hl : xs.length ≤ 2^53) :
    CorrectlyRounded ((ns.sum : Rat) / (xs.length : Rat))
      (div (xs.foldl add zero) (ofNat xs.length)) := (avg_ieee ⟨h, hb, h0, hl⟩).1

/-- `avg` is exact when the mean is itself an integer (of magnitude at most `2^53`). -/
theorem avg_exact {xs : List F64} {ns : List Int} (h : SmallInts xs ns)
    {k : Int} (hk : ns.sum = k * xs.length) (hkb : k.natAbs ≤ 2^53) :
    IsInt (div (xs.foldl add zero) (ofNat xs.length)) k := by
  have ⟨hs, hn, hz⟩ := avg_operands h
  refine isInt_of_exact ?_ (div_exact _ _ hs.1 hn.1 hz) hkb
  rw [hs.2, hn.2, hk, Rat.intCast_mul, Rat.intCast_natCast]
  apply Rat.mul_div_cancel
  have : xs.length ≠ 0 := Nat.ne_of_gt h.pos
  exact_mod_cast this

/-- comparisons of finite doubles are comparisons of their values -/
theorem flt_spec (a b : F64) (ha : a.isFinite) (hb : b.isFinite) :
    flt a b = decide (a.toRat < b.toRat) := by
  obtain ⟨_, _, _, rfl⟩ := fin_of_isFinite ha
  obtain ⟨_, _, _, rfl⟩ := fin_of_isFinite hb
  rfl

theorem feq_spec (a b : F64) (ha : a.isFinite) (hb : b.isFinite) :
    feq a b = decide (a.toRat = b.toRat) := by
  obtain ⟨_, _, _, rfl⟩ := fin_of_isFinite ha
  obtain ⟨_, _, _, rfl⟩ := fin_of_isFinite hb
  rfl

theorem fle_spec (a b : F64) (ha : a.isFinite) (hb : b.isFinite) :
    fle a b = decide (a.toRat ≤ b.toRat) := by
  rw [fle, flt_spec a b ha hb, feq_spec a b ha hb, ← Bool.decide_or]
  exact decide_eq_decide.2 Rat.le_iff_lt_or_eq.symm

end F64
end JmesVerif

#print axioms JmesVerif.F64.abs_spec
#print axioms JmesVerif.F64.neg_spec
#print axioms JmesVerif.F64.floor_spec
#print axioms JmesVerif.F64.ceil_spec
#print axioms JmesVerif.F64.floor_of_nonneg_exp
#print axioms JmesVerif.F64.roundPos_canon
#print axioms JmesVerif.F64.roundPos_repr
#print axioms JmesVerif.F64.roundPos_some
#print axioms JmesVerif.F64.roundPos_nearest
#print axioms JmesVerif.F64.roundPos_ties_even
#print axioms JmesVerif.F64.roundPos_eq_none_iff
#print axioms JmesVerif.F64.ofRat_ieee
#print axioms JmesVerif.F64.ofRatSigned_ieee
#print axioms JmesVerif.F64.ofRat_exact
#print axioms JmesVerif.F64.ofRatSigned_toRat
#print axioms JmesVerif.F64.add_ieee
#print axioms JmesVerif.F64.sub_ieee
#print axioms JmesVerif.F64.mul_ieee
#print axioms JmesVerif.F64.div_ieee
#print axioms JmesVerif.F64.add_exact
#print axioms JmesVerif.F64.ofNat_exact
#print axioms JmesVerif.F64.ofInt_exact
#print axioms JmesVerif.F64.foldl_add_isInt
#print axioms JmesVerif.F64.avg_correct
#print axioms JmesVerif.F64.avg_exact
#print axioms JmesVerif.F64.avg_ieee
#print axioms JmesVerif.F64.canonME_unique
#print axioms JmesVerif.F64.fle_spec
