import JmesVerif.Lemmas.GrammarToks
import JmesVerif.Model.Parser
/-! Shared vocabulary for the parser theorems (T1 soundness, T2 completeness, fuel). -/
namespace JmesVerif

def tk (ts : List PT) : List Tok := ts.map Prod.snd

/-- first token of a position-free token string (`eof` when empty), cf. `Parser.peekT` -/
def peekL (ts : List Tok) : Tok := ts.headD .eof

@[simp] theorem tk_nil : tk [] = [] := rfl
@[simp] theorem tk_cons (p : Nat) (t : Tok) (r : List PT) : tk ((p, t) :: r) = t :: tk r := rfl

theorem peekT_eq_peekL (ts : List PT) : Parser.peekT ts = peekL (tk ts) := by
  cases ts with
  | nil => rfl
  | cons pt r => cases pt; rfl

theorem tk_cons_inv {ts : List PT} {t : Tok} {rest : List Tok} (h : tk ts = t :: rest) :
    ∃ p ts₁, ts = (p, t) :: ts₁ ∧ tk ts₁ = rest := by
  cases ts with
  | nil => cases h
  | cons pt r => cases h; exact ⟨_, _, rfl, rfl⟩

namespace Parser
variable (rbp off : Nat) (ts : List PT) (lhs : Ast)
@[simp] theorem expr_zero : expr 0 rbp ts off = .error .fuel := expr.eq_1 ..
@[simp] theorem loop_zero (h acc left) : loop 0 rbp h acc left ts off = .error .fuel := loop.eq_1 ..
@[simp] theorem nud_zero : nud 0 ts off = .error .fuel := nud.eq_1 ..
@[simp] theorem led_zero : led 0 lhs ts off = .error .fuel := led.eq_1 ..
@[simp] theorem parseIndex_zero : parseIndex 0 ts off = .error .fuel := parseIndex.eq_1 ..
@[simp] theorem projRhs_zero : projRhs 0 rbp ts off = .error .fuel := projRhs.eq_1 ..
@[simp] theorem parseDot_zero : parseDot 0 rbp ts off = .error .fuel := parseDot.eq_1 ..
@[simp] theorem multiList_zero : multiList 0 ts off = .error .fuel := multiList.eq_1 ..
@[simp] theorem parseList_zero (b es as) : parseList 0 b ts off es as = .error .fuel := parseList.eq_1 ..
@[simp] theorem kvps_zero (ks aks) : kvps 0 ts off ks aks = .error .fuel := kvps.eq_1 ..
@[simp] theorem parseFilter_zero : parseFilter 0 lhs ts off = .error .fuel := parseFilter.eq_1 ..
@[simp] theorem parseFlatten_zero : parseFlatten 0 lhs ts off = .error .fuel := parseFlatten.eq_1 ..
@[simp] theorem wildcardValues_zero : wildcardValues 0 lhs ts off = .error .fuel := wildcardValues.eq_1 ..
@[simp] theorem wildcardIndex_zero : wildcardIndex 0 lhs ts off = .error .fuel := wildcardIndex.eq_1 ..

/-! One iteration of `idxLoop`, by the token at the head of the queue. -/
section idxLoop
variable (fuel p k : Nat) (r : List PT) (a b c : Option Int)

theorem idxLoop_number (v : Int) : idxLoop (fuel+1) ((p, .number v) :: r) off a b c k =
    match peekT r with
    | .colon | .rbracket =>
      idxLoop fuel r p (if k = 0 then some v else a) (if k = 1 then some v else b)
        (if k = 0 ∨ k = 1 then c else some v) k
    | _ => .error (.at (peekPos r p)) := by
  obtain _ | _ | k := k
  all_goals rfl

theorem idxLoop_colon : idxLoop (fuel+1) ((p, .colon) :: r) off a b c k =
    if k ≥ 2 then .error (.at p)
    else match peekT r with
      | .number _ | .colon | .rbracket => idxLoop fuel r p a b c (k + 1)
      | _ => .error (.at (peekPos r p)) := rfl

theorem idxLoop_rbracket : idxLoop (fuel+1) ((p, .rbracket) :: r) off a b c k =
    if k = 0 then
      match a with
      | some n => .ok (.idx n, r, p)
      | none => .error (.at p)
    else .ok (.slice ⟨a, b, if k = 2 then some c else none⟩, r, p) := rfl

omit fuel p k r a b c in
/-- every token but a number, `:` and `]` makes `idxLoop` fail at that token -/
theorem idxLoop_other (t : Tok) : (∃ v, t = .number v) ∨ t = .colon ∨ t = .rbracket ∨
    ∀ fuel p r off a b c k, idxLoop (fuel+1) ((p, t) :: r) off a b c k = .error (.at p) := by
  cases t with
  | number v => exact .inl ⟨v, rfl⟩
  | colon => exact .inr (.inl rfl)
  | rbracket => exact .inr (.inr (.inl rfl))
  | _ => exact .inr (.inr (.inr fun _ _ _ _ _ _ _ _ => rfl))
end idxLoop
end Parser

end JmesVerif
