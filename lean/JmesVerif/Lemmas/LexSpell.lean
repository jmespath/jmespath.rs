import JmesVerif.Lemmas.SpellRoundTrip
import JmesVerif.Lemmas.JsonRoundTripNum
import JmesVerif.Lemmas.ParserBasic
import JmesVerif.Lemmas.LexTablePerm
/-!
# Every list of writable tokens has a spelling that lexes back to it

`spellToks` writes a token list down (canonical spelling of every token, single spaces between
tokens); `lex_spell` shows the lexer model reads that text back as exactly the given tokens,
followed by the end marker.  This closes the gap between *sentences* (token lists) and *strings*.
-/
namespace JmesVerif
open Spelling

/-- tokens whose payload can be written down (numbers within `±(2^31 − 1)`: the lexer bounds the magnitude, so
`i32::MIN` is not a token) -/
def Tok.Spellable : Tok → Prop
  | .identifier s => ∃ c cs, s.toList = c :: cs ∧ Lexer.isIdStart c = true ∧ cs.all Lexer.isIdChar = true
  | .quotedIdentifier _ => True
  | .number n => -2147483647 ≤ n ∧ n ≤ 2147483647
  | .literal v => v.isJson = true ∧ JsonText.parse (JsonPrint.compact v).toList = some v
  | .eof => False
  | _ => True

/-- decimal spelling of an integer: the digits, with a leading `-` for negatives -/
def spellInt : Int → List Char
  | .ofNat n => Nat.toDigits 10 n
  | .negSucc n => '-' :: Nat.toDigits 10 (n + 1)

/-- canonical spelling of one token -/
def spellTok : Tok → List Char
  | .identifier s => s.toList
  | .quotedIdentifier s => quotedSpell s
  | .number n => spellInt n
  | .literal v => literalSpell v
  | .dot => ['.'] | .star => ['*'] | .flatten => ['[', ']'] | .and => ['&', '&'] | .or => ['|', '|']
  | .pipe => ['|'] | .filter => ['[', '?'] | .lbracket => ['['] | .rbracket => [']'] | .comma => [',']
  | .colon => [':'] | .not => ['!'] | .ne => ['!', '='] | .eq => ['=', '='] | .gt => ['>']
  | .gte => ['>', '='] | .lt => ['<'] | .lte => ['<', '='] | .at => ['@'] | .ampersand => ['&']
  | .lparen => ['('] | .rparen => [')'] | .lbrace => ['{'] | .rbrace => ['}']
  | .eof => []

/-- tokens separated by single spaces -/
def spellToks : List Tok → List Char
  | [] => []
  | [t] => spellTok t
  | t :: ts => spellTok t ++ ' ' :: spellToks ts

namespace LexSpell

/-- what may follow a token: nothing, or a space -/
def Sep (r : List Char) : Prop := r = [] ∨ ∃ r', r = ' ' :: r'

theorem Sep.nil : Sep [] := Or.inl rfl
theorem Sep.space (r : List Char) : Sep (' ' :: r) := Or.inr ⟨r, rfl⟩

theorem takeWhile_all (p : Char → Bool) (hp : p ' ' = false) (cs : List Char) (h : cs.all p = true)
    (r : List Char) (hr : Sep r) : Lexer.takeWhile p (cs ++ r) = (cs, r) := by
  induction cs with
  | nil =>
    rcases hr with rfl | ⟨r', rfl⟩
    · simp [Lexer.takeWhile]
    · simp [Lexer.takeWhile, hp]
  | cons c cs ih =>
    simp only [List.all_cons, Bool.and_eq_true] at h
    simp [Lexer.takeWhile, h.1, ih h.2]

theorem digitsVal_eq (ds : List Char) : Lexer.digitsVal ds = Nat.ofDigitChars 10 ds 0 := by
  unfold Lexer.digitsVal Nat.ofDigitChars
  congr 1
  funext acc d
  rw [Nat.mul_comm]

theorem digitsVal_toDigits (n : Nat) : Lexer.digitsVal (Nat.toDigits 10 n) = n := by
  rw [digitsVal_eq, Nat.ofDigitChars_ten_toDigits]

theorem all_isDigit_toDigits (n : Nat) : (Nat.toDigits 10 n).all Lexer.isDigit = true := by
  rw [List.all_eq_true]
  intro c hc
  exact JsonRT.isDigit_of_mem_toDigits hc

/-- the dispatch on a digit reaches the number helper -/
theorem lexOne_digit (pos : Nat) (c : Char) (h : Lexer.isDigit c = true) (cs : List Char) :
    Lexer.lexOne pos c cs = Lexer.runCall "consume_number" pos c cs := by
  rw [lexOne_eq_table, actOf_of_covers lexArmsDoc_disjoint (a := ([('0', '9')], .call "consume_number"))
    (by decide) (by rwa [covers_digit])]
  rfl

theorem lexOne_nat (pos n : Nat) (hn : n ≤ 2147483647) (r : List Char) (hr : Sep r) {c : Char} {cs : List Char}
    (he : Nat.toDigits 10 n = c :: cs) : Lexer.lexOne pos c (cs ++ r) = .ok (some (.number (Int.ofNat n)), r) := by
  have hall := all_isDigit_toDigits n
  rw [he] at hall
  simp only [List.all_cons, Bool.and_eq_true] at hall
  have hv : Lexer.digitsVal (c :: cs) = n := by rw [← he]; exact digitsVal_toDigits n
  simp [lexOne_digit pos c hall.1, Lexer.runCall, takeWhile_all _ (by decide) cs hall.2 r hr, hv, hn]

theorem lexOne_neg (pos n : Nat) (hn : n + 1 ≤ 2147483647) (r : List Char) (hr : Sep r) :
    Lexer.lexOne pos '-' (Nat.toDigits 10 (n + 1) ++ r) = .ok (some (.number (Int.negSucc n)), r) := by
  obtain ⟨d, ds, he, h1, h2⟩ := JsonRT.toDigits_head (n + 1) (by omega)
  have hall := all_isDigit_toDigits (n + 1)
  rw [he] at hall
  simp only [List.all_cons, Bool.and_eq_true] at hall
  have hv : Lexer.digitsVal (d :: ds) = n + 1 := by rw [← he]; exact digitsVal_toDigits (n + 1)
  have hd : (decide ('1' ≤ d) && decide (d ≤ '9')) = true := (JsonRT.one_le_iff d).2 ⟨h1, h2⟩
  rw [he, lexOne_eq_table, show actOf lexArmsDoc '-' = .call "consume_negative_number" from by decide]
  simp [Lexer.runAct, Lexer.runCall, hd, takeWhile_all _ (by decide) ds hall.2 r hr, hv, hn, Int.negSucc_eq]

theorem lexOne_ident (pos : Nat) (c : Char) (cs : List Char) (hc : Lexer.isIdStart c = true)
    (hcs : cs.all Lexer.isIdChar = true) (r : List Char) (hr : Sep r) :
    Lexer.lexOne pos c (cs ++ r) = .ok (some (.identifier (String.ofList (c :: cs))), r) := by
  unfold Lexer.lexOne
  simp [hc, takeWhile_all _ (by decide) cs hcs r hr]

/-- **one token**: the canonical spelling of a spellable token, followed by nothing or by a space,
is read back as that token and leaves exactly what followed -/
theorem lexOne_spell (t : Tok) (ht : t.Spellable) (r : List Char) (hr : Sep r) :
    ∃ c cs, spellTok t = c :: cs ∧ ∀ pos, Lexer.lexOne pos c (cs ++ r) = .ok (some t, r) := by
  cases t with
  | identifier s =>
    obtain ⟨c, cs, hs, hc, hcs⟩ := ht
    refine ⟨c, cs, hs, fun pos => ?_⟩
    rw [lexOne_ident pos c cs hc hcs r hr, ← hs, String.ofList_toList]
  | quotedIdentifier s =>
    exact ⟨'"', _, quotedSpell_eq s, fun pos => by simpa using quoted_roundtrip s.toList r pos⟩
  | number n =>
    obtain ⟨h1, h2⟩ := ht
    cases n with
    | ofNat n =>
      have h2 : (n : Int) ≤ 2147483647 := h2
      obtain ⟨c, cs, he⟩ := List.exists_cons_of_ne_nil (Nat.toDigits_ne_nil (b := 10) (n := n))
      exact ⟨c, cs, he, fun pos => lexOne_nat pos n (by omega) r hr he⟩
    | negSucc n =>
      have h1 : -2147483647 ≤ Int.negSucc n := h1
      exact ⟨'-', Nat.toDigits 10 (n + 1), rfl, fun pos => lexOne_neg pos n (by omega) r hr⟩
  | literal v =>
    refine ⟨'`', _, rfl, fun pos => ?_⟩
    rw [List.append_assoc]
    exact literal_lexOne v ht.2 (compact_btSafe v) r pos
  | eof => exact absurd ht (by simp [Tok.Spellable])
  | lbracket | pipe | ampersand | gt | lt | not =>
    -- the next character decides: after nothing or a space it is this token
    refine ⟨_, _, rfl, fun pos => ?_⟩
    rcases hr with rfl | ⟨r', rfl⟩ <;> rfl
  | _ => exact ⟨_, _, rfl, fun pos => rfl⟩

theorem lexOne_space (pos : Nat) (r : List Char) : Lexer.lexOne pos ' ' r = .ok (none, r) := rfl

theorem spellTok_length_pos (t : Tok) (ht : t.Spellable) : 1 ≤ (spellTok t).length := by
  obtain ⟨c, cs, h, _⟩ := lexOne_spell t ht [] Sep.nil
  simp [h]

theorem loop_spell (total : Nat) : ∀ (ts : List Tok), (∀ t ∈ ts, t.Spellable) →
    ∀ (fuel : Nat) (acc : List (Nat × Tok)), (spellToks ts).length + 1 ≤ fuel →
    ∃ mid, Lexer.loop total fuel (spellToks ts) acc = .ok (acc.reverse ++ mid ++ [(total, Tok.eof)]) ∧
      tk mid = ts
  | [], _, fuel, acc, hf => by
    obtain ⟨f, rfl⟩ : ∃ f, fuel = f + 1 := ⟨fuel - 1, by omega⟩
    exact ⟨[], by simp [spellToks, Lexer.loop], rfl⟩
  | [t], h, fuel, acc, hf => by
    obtain ⟨c, cs, he, hl⟩ := lexOne_spell t (h t (by simp)) [] Sep.nil
    simp only [spellToks, he, List.length_cons] at hf ⊢
    obtain ⟨f, rfl⟩ : ∃ f, fuel = f + 2 := ⟨fuel - 2, by omega⟩
    have hl' := hl (total - Lexer.utf8Len (c :: cs))
    rw [List.append_nil] at hl'
    refine ⟨[(total - Lexer.utf8Len (c :: cs), t)], ?_, rfl⟩
    rw [Lexer.loop]
    simp only [hl']
    simp [Lexer.loop]
  | t :: t' :: ts, h, fuel, acc, hf => by
    obtain ⟨c, cs, he, hl⟩ := lexOne_spell t (h t (by simp)) (' ' :: spellToks (t' :: ts)) (Sep.space _)
    have hs : spellToks (t :: t' :: ts) = c :: (cs ++ ' ' :: spellToks (t' :: ts)) := by
      simp [spellToks, he]
    rw [hs] at hf ⊢
    simp only [List.length_cons, List.length_append] at hf
    obtain ⟨f, rfl⟩ : ∃ f, fuel = f + 2 := ⟨fuel - 2, by omega⟩
    obtain ⟨mid, hm, htk⟩ := loop_spell total (t' :: ts) (fun x hx => h x (by simp [hx])) f
      ((total - Lexer.utf8Len (c :: (cs ++ ' ' :: spellToks (t' :: ts))), t) :: acc) (by omega)
    refine ⟨(total - Lexer.utf8Len (c :: (cs ++ ' ' :: spellToks (t' :: ts))), t) :: mid, ?_, by
      simp [tk] at htk ⊢; exact htk⟩
    rw [Lexer.loop]
    simp only [hl]
    rw [Lexer.loop]
    simp only [lexOne_space]
    rw [hm]
    simp

end LexSpell
open LexSpell

/-- **Every list of writable tokens has a spelling that lexes back to it.** -/
theorem lex_spell (ts : List Tok) (h : ∀ t ∈ ts, t.Spellable) :
    ∃ ps : List (Nat × Tok), tokenize (spellToks ts) = .ok ps ∧ tk ps = ts ++ [.eof] := by
  obtain ⟨mid, hm, htk⟩ := loop_spell (Lexer.utf8Len (spellToks ts)) ts h ((spellToks ts).length + 1) []
    (Nat.le_refl _)
  refine ⟨mid ++ [(Lexer.utf8Len (spellToks ts), Tok.eof)], by simpa [tokenize] using hm, ?_⟩
  simp [tk] at htk ⊢
  exact htk

end JmesVerif


example : (JmesVerif.Tok.identifier "foo_1").Spellable := ⟨'f', "oo_1".toList, rfl, by decide, by decide⟩
example : JmesVerif.spellToks [.identifier "a", .lbracket, .number (-12), .rbracket, .gte, .quotedIdentifier "b c"]
    = "a [ -12 ] >= \"b c\"".toList := by decide

#print axioms JmesVerif.LexSpell.lexOne_spell
#print axioms JmesVerif.lex_spell
