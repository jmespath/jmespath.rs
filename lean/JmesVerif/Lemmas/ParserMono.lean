import JmesVerif.Lemmas.ParserBasic
import JmesVerif.Lemmas.Fuel
/-!
Fuel monotonicity of the parser model: a result that is not the out-of-fuel error is stable
under additional fuel.  `MonoStep n` bundles the one-step statement for all functions of the
mutual block; `monoStep_all` proves it by induction on `n`.
-/
namespace JmesVerif
open Parser

structure MonoStep (n : Nat) : Prop where
  expr : ∀ rbp ts off, Parser.expr n rbp ts off ≠ .error .fuel →
    Parser.expr (n+1) rbp ts off = Parser.expr n rbp ts off
  loop : ∀ rbp hd acc left ts off, Parser.loop n rbp hd acc left ts off ≠ .error .fuel →
    Parser.loop (n+1) rbp hd acc left ts off = Parser.loop n rbp hd acc left ts off
  nud : ∀ ts off, Parser.nud n ts off ≠ .error .fuel → Parser.nud (n+1) ts off = Parser.nud n ts off
  led : ∀ left ts off, Parser.led n left ts off ≠ .error .fuel →
    Parser.led (n+1) left ts off = Parser.led n left ts off
  parseIndex : ∀ ts off, Parser.parseIndex n ts off ≠ .error .fuel →
    Parser.parseIndex (n+1) ts off = Parser.parseIndex n ts off
  projRhs : ∀ k ts off, Parser.projRhs n k ts off ≠ .error .fuel →
    Parser.projRhs (n+1) k ts off = Parser.projRhs n k ts off
  parseDot : ∀ k ts off, Parser.parseDot n k ts off ≠ .error .fuel →
    Parser.parseDot (n+1) k ts off = Parser.parseDot n k ts off
  multiList : ∀ ts off, Parser.multiList n ts off ≠ .error .fuel →
    Parser.multiList (n+1) ts off = Parser.multiList n ts off
  parseList : ∀ b ts off es as, Parser.parseList n b ts off es as ≠ .error .fuel →
    Parser.parseList (n+1) b ts off es as = Parser.parseList n b ts off es as
  kvps : ∀ ts off ks aks, Parser.kvps n ts off ks aks ≠ .error .fuel →
    Parser.kvps (n+1) ts off ks aks = Parser.kvps n ts off ks aks
  parseFilter : ∀ lhs ts off, Parser.parseFilter n lhs ts off ≠ .error .fuel →
    Parser.parseFilter (n+1) lhs ts off = Parser.parseFilter n lhs ts off
  parseFlatten : ∀ lhs ts off, Parser.parseFlatten n lhs ts off ≠ .error .fuel →
    Parser.parseFlatten (n+1) lhs ts off = Parser.parseFlatten n lhs ts off
  wildcardValues : ∀ lhs ts off, Parser.wildcardValues n lhs ts off ≠ .error .fuel →
    Parser.wildcardValues (n+1) lhs ts off = Parser.wildcardValues n lhs ts off
  wildcardIndex : ∀ lhs ts off, Parser.wildcardIndex n lhs ts off ≠ .error .fuel →
    Parser.wildcardIndex (n+1) lhs ts off = Parser.wildcardIndex n lhs ts off

/-- after unfolding both sides: split the hypothesis along the path actually taken, then rewrite
the sub-calls of the goal with the induction hypotheses -/
macro "mono_close" ih:ident h:ident : tactic => `(tactic| (
  simp only at $h:ident ⊢
  repeat' (split at $h:ident)
  all_goals (try (simp_all [($ih).expr, ($ih).loop, ($ih).nud, ($ih).led, ($ih).parseIndex, ($ih).projRhs,
    ($ih).parseDot, ($ih).multiList, ($ih).parseList, ($ih).kvps, ($ih).parseFilter, ($ih).parseFlatten,
    ($ih).wildcardValues, ($ih).wildcardIndex]; done))
  all_goals (try (split <;> first | rfl | omega))))

theorem MonoStep.zero : MonoStep 0 := by
  constructor <;> intros <;> simp_all

/-! With `h : f (n+1) … ≠ .error .fuel` split along the arm taken, the arm's first sub-call did not
run out of fuel either (else `h` fails: `fun e => h (by rw [e])`), so the induction hypothesis rewrites it to fuel `n`; what follows it is the same text on both sides,
up to a second call, which is treated the same way once `h` is split on the first call's answer. -/

theorem MonoStep.succ {n : Nat} (ih : MonoStep n) : MonoStep (n + 1) := by
  constructor
  · intro rbp ts off h
    unfold Parser.expr at h ⊢
    rw [ih.nud _ _ fun e => h (by rw [e])]
    split at h <;> try rfl
    exact ih.loop _ _ _ _ _ _ h
  · intro rbp hd acc left ts off h
    unfold Parser.loop at h ⊢
    split at h <;> rename_i hlt
    · rw [if_pos hlt, if_pos hlt]
      split at h
      · split at h <;> try rfl
        rw [ih.parseList _ _ _ _ _ fun e => h (by rw [e])]
        split at h <;> try rfl
        split at h <;> exact ih.loop _ _ _ _ _ _ h
      · rw [ih.led _ _ _ fun e => h (by rw [e])]
        split at h <;> try rfl
        exact ih.loop _ _ _ _ _ _ h
    · rw [if_neg hlt, if_neg hlt]
  · intro ts off h
    unfold Parser.nud at h ⊢
    split at h
    · rfl
    · split at h <;> try rfl
      · rw [ih.wildcardValues _ _ _ fun e => h (by rw [e])]
      · split at h <;> try rfl
        · rw [ih.parseIndex _ _ fun e => h (by rw [e])]
        · rw [ih.parseIndex _ _ fun e => h (by rw [e])]
        · rw [ih.wildcardIndex _ _ _ fun e => h (by rw [e])]
        · rw [ih.multiList _ _ fun e => h (by rw [e])]
      · rw [ih.parseFlatten _ _ _ fun e => h (by rw [e])]
      · rw [ih.kvps _ _ _ _ fun e => h (by rw [e])]
      · rw [ih.expr _ _ _ fun e => h (by rw [e])]
      · rw [ih.expr _ _ _ fun e => h (by rw [e])]
      · rw [ih.parseFilter _ _ _ fun e => h (by rw [e])]
      · rw [ih.expr _ _ _ fun e => h (by rw [e])]
  · intro left ts off h
    unfold Parser.led at h ⊢
    split at h
    · rfl
    · split at h <;> try rfl
      · split at h
        · rw [ih.wildcardValues _ _ _ fun e => h (by rw [e])]
        · rw [ih.parseDot _ _ _ fun e => h (by rw [e])]
      · split at h <;> try rfl
        · rw [ih.parseIndex _ _ fun e => h (by rw [e])]
        · rw [ih.parseIndex _ _ fun e => h (by rw [e])]
        · rw [ih.wildcardIndex _ _ _ fun e => h (by rw [e])]
      · rw [ih.expr _ _ _ fun e => h (by rw [e])]
      · rw [ih.expr _ _ _ fun e => h (by rw [e])]
      · rw [ih.expr _ _ _ fun e => h (by rw [e])]
      · rw [ih.parseFlatten _ _ _ fun e => h (by rw [e])]
      · rw [ih.parseFilter _ _ _ fun e => h (by rw [e])]
      · split at h <;> try rfl
        rw [ih.expr _ _ _ fun e => h (by rw [e])]
  · intro ts off h
    unfold Parser.parseIndex at h ⊢
    split at h <;> try rfl
    rw [ih.projRhs _ _ _ fun e => h (by rw [e])]
  · intro k ts off h
    unfold Parser.projRhs at h ⊢
    split at h <;> try rfl
    · rw [ih.parseDot _ _ _ fun e => h (by rw [e])]
    all_goals rw [ih.expr _ _ _ fun e => h (by rw [e])]
  · intro k ts off h
    unfold Parser.parseDot at h ⊢
    split at h <;> try rfl
    · rw [ih.multiList _ _ fun e => h (by rw [e])]
    all_goals rw [ih.expr _ _ _ fun e => h (by rw [e])]
  · intro ts off h
    unfold Parser.multiList at h ⊢
    rw [ih.parseList _ _ _ _ _ fun e => h (by rw [e])]
  · intro b ts off es as h
    unfold Parser.parseList at h ⊢
    split at h <;> try rfl
    split at h <;> rename_i hc
    · rw [if_pos hc, if_pos hc]
    · rw [if_neg hc, if_neg hc, ih.expr _ _ _ fun e => h (by rw [e])]
      split at h <;> try rfl
      split at h <;> try rfl
      split at h <;> rename_i hc2
      · rw [if_pos hc2, if_pos hc2]
      · rw [if_neg hc2, if_neg hc2]; exact ih.parseList _ _ _ _ _ h
  · intro ts off ks aks h
    unfold Parser.kvps at h ⊢
    simp only at h ⊢
    split at h <;> try rfl
    split at h <;> try rfl
    rw [ih.expr _ _ _ fun e => h (by rw [e])]
    split at h <;> try rfl
    split at h <;> try rfl
    exact ih.kvps _ _ _ _ h
  · intro lhs ts off h
    unfold Parser.parseFilter at h ⊢
    rw [ih.expr _ _ _ fun e => h (by rw [e])]
    split at h <;> try rfl
    split at h <;> try rfl
    rw [ih.projRhs _ _ _ fun e => h (by rw [e])]
  · intro lhs ts off h
    unfold Parser.parseFlatten at h ⊢
    rw [ih.projRhs _ _ _ fun e => h (by rw [e])]
  · intro lhs ts off h
    unfold Parser.wildcardValues at h ⊢
    rw [ih.projRhs _ _ _ fun e => h (by rw [e])]
  · intro lhs ts off h
    unfold Parser.wildcardIndex at h ⊢
    split at h <;> try rfl
    rw [ih.projRhs _ _ _ fun e => h (by rw [e])]

theorem monoStep_all : ∀ n, MonoStep n
  | 0 => MonoStep.zero
  | n + 1 => (monoStep_all n).succ

theorem expr_mono (fuel : Nat) (rbp : Nat) (ts : List PT) (off : Nat) (r : PRes (Expr × Ast))
    (h : Parser.expr fuel rbp ts off = r) (hr : r ≠ .error .fuel) :
    ∀ fuel', fuel ≤ fuel' → Parser.expr fuel' rbp ts off = r :=
  mono_iter (fun n => Parser.expr n rbp ts off) _ (fun n => (monoStep_all n).expr rbp ts off) fuel r h hr

theorem loop_mono (fuel : Nat) (rbp : Nat) (hd : Nud) (acc : List Led) (left : Ast) (ts : List PT) (off : Nat) (r : PRes (Expr × Ast))
    (h : Parser.loop fuel rbp hd acc left ts off = r) (hr : r ≠ .error .fuel) :
    ∀ fuel', fuel ≤ fuel' → Parser.loop fuel' rbp hd acc left ts off = r :=
  mono_iter (fun n => Parser.loop n rbp hd acc left ts off) _ (fun n => (monoStep_all n).loop rbp hd acc left ts off) fuel r h hr

theorem nud_mono (fuel : Nat) (ts : List PT) (off : Nat) (r : PRes (Nud × Ast))
    (h : Parser.nud fuel ts off = r) (hr : r ≠ .error .fuel) :
    ∀ fuel', fuel ≤ fuel' → Parser.nud fuel' ts off = r :=
  mono_iter (fun n => Parser.nud n ts off) _ (fun n => (monoStep_all n).nud ts off) fuel r h hr

theorem led_mono (fuel : Nat) (left : Ast) (ts : List PT) (off : Nat) (r : PRes (Led × Ast))
    (h : Parser.led fuel left ts off = r) (hr : r ≠ .error .fuel) :
    ∀ fuel', fuel ≤ fuel' → Parser.led fuel' left ts off = r :=
  mono_iter (fun n => Parser.led n left ts off) _ (fun n => (monoStep_all n).led left ts off) fuel r h hr

theorem parseIndex_mono (fuel : Nat) (ts : List PT) (off : Nat) (r : PRes ((Int ⊕ (SliceHdr × Rhs)) × Ast))
    (h : Parser.parseIndex fuel ts off = r) (hr : r ≠ .error .fuel) :
    ∀ fuel', fuel ≤ fuel' → Parser.parseIndex fuel' ts off = r :=
  mono_iter (fun n => Parser.parseIndex n ts off) _ (fun n => (monoStep_all n).parseIndex ts off) fuel r h hr

theorem projRhs_mono (fuel : Nat) (k : Nat) (ts : List PT) (off : Nat) (r : PRes (Rhs × Ast))
    (h : Parser.projRhs fuel k ts off = r) (hr : r ≠ .error .fuel) :
    ∀ fuel', fuel ≤ fuel' → Parser.projRhs fuel' k ts off = r :=
  mono_iter (fun n => Parser.projRhs n k ts off) _ (fun n => (monoStep_all n).projRhs k ts off) fuel r h hr

theorem parseDot_mono (fuel : Nat) (k : Nat) (ts : List PT) (off : Nat) (r : PRes (DotRhs × Ast))
    (h : Parser.parseDot fuel k ts off = r) (hr : r ≠ .error .fuel) :
    ∀ fuel', fuel ≤ fuel' → Parser.parseDot fuel' k ts off = r :=
  mono_iter (fun n => Parser.parseDot n k ts off) _ (fun n => (monoStep_all n).parseDot k ts off) fuel r h hr

theorem multiList_mono (fuel : Nat) (ts : List PT) (off : Nat) (r : PRes (List Expr × Ast))
    (h : Parser.multiList fuel ts off = r) (hr : r ≠ .error .fuel) :
    ∀ fuel', fuel ≤ fuel' → Parser.multiList fuel' ts off = r :=
  mono_iter (fun n => Parser.multiList n ts off) _ (fun n => (monoStep_all n).multiList ts off) fuel r h hr

theorem parseList_mono (fuel : Nat) (b : Bool) (ts : List PT) (off : Nat) (es : List Expr) (as : List Ast) (r : PRes (List Expr × List Ast))
    (h : Parser.parseList fuel b ts off es as = r) (hr : r ≠ .error .fuel) :
    ∀ fuel', fuel ≤ fuel' → Parser.parseList fuel' b ts off es as = r :=
  mono_iter (fun n => Parser.parseList n b ts off es as) _ (fun n => (monoStep_all n).parseList b ts off es as) fuel r h hr

theorem kvps_mono (fuel : Nat) (ts : List PT) (off : Nat) (ks : List (Bool × String × Expr)) (aks : List (String × Ast)) (r : PRes (List (Bool × String × Expr) × List (String × Ast)))
    (h : Parser.kvps fuel ts off ks aks = r) (hr : r ≠ .error .fuel) :
    ∀ fuel', fuel ≤ fuel' → Parser.kvps fuel' ts off ks aks = r :=
  mono_iter (fun n => Parser.kvps n ts off ks aks) _ (fun n => (monoStep_all n).kvps ts off ks aks) fuel r h hr

theorem parseFilter_mono (fuel : Nat) (lhs : Ast) (ts : List PT) (off : Nat) (r : PRes (Expr × Rhs × Ast))
    (h : Parser.parseFilter fuel lhs ts off = r) (hr : r ≠ .error .fuel) :
    ∀ fuel', fuel ≤ fuel' → Parser.parseFilter fuel' lhs ts off = r :=
  mono_iter (fun n => Parser.parseFilter n lhs ts off) _ (fun n => (monoStep_all n).parseFilter lhs ts off) fuel r h hr

theorem parseFlatten_mono (fuel : Nat) (lhs : Ast) (ts : List PT) (off : Nat) (r : PRes (Rhs × Ast))
    (h : Parser.parseFlatten fuel lhs ts off = r) (hr : r ≠ .error .fuel) :
    ∀ fuel', fuel ≤ fuel' → Parser.parseFlatten fuel' lhs ts off = r :=
  mono_iter (fun n => Parser.parseFlatten n lhs ts off) _ (fun n => (monoStep_all n).parseFlatten lhs ts off) fuel r h hr

theorem wildcardValues_mono (fuel : Nat) (lhs : Ast) (ts : List PT) (off : Nat) (r : PRes (Rhs × Ast))
    (h : Parser.wildcardValues fuel lhs ts off = r) (hr : r ≠ .error .fuel) :
    ∀ fuel', fuel ≤ fuel' → Parser.wildcardValues fuel' lhs ts off = r :=
  mono_iter (fun n => Parser.wildcardValues n lhs ts off) _ (fun n => (monoStep_all n).wildcardValues lhs ts off) fuel r h hr

theorem wildcardIndex_mono (fuel : Nat) (lhs : Ast) (ts : List PT) (off : Nat) (r : PRes (Rhs × Ast))
    (h : Parser.wildcardIndex fuel lhs ts off = r) (hr : r ≠ .error .fuel) :
    ∀ fuel', fuel ≤ fuel' → Parser.wildcardIndex fuel' lhs ts off = r :=
  mono_iter (fun n => Parser.wildcardIndex n lhs ts off) _ (fun n => (monoStep_all n).wildcardIndex lhs ts off) fuel r h hr

end JmesVerif
