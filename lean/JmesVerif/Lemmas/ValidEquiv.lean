import JmesVerif.Generated.ValidCode
import JmesVerif.Lemmas.Signature

/-!
# The hand-written model of signature validation, type names, equality and ordering equals the code
# re-translated from the Rust source

`Generated/ValidCode.lean` is written by `tools/rs2lean.py` from the bodies of
`ArgumentType::is_valid`, the two `Display` impls, `Signature::validate_arity` / `validate_arg` / `validate`,
`float_eq`, `Variable::eq` and `Variable::cmp` on every run.  This file proves each generated definition equal to
the hand model (`ArgT.isValid`, `ArgT.name`, `JType.name`, `Sig.validate`, `floatEq`, `Val.beq`, `Val.cmp`) for all
inputs, and the safety fact that the checked `self.inputs[k]` of the non-variadic loop cannot fail after the arity
check (from `validate_no_panic`, the same fact about the model's validator).  The scripts avoid depending on the shape of the generated
terms: unfold both sides, case on the model's data and evaluate (`rfl`), or split every `if`/`match` and `simp_all`.
-/
namespace JmesVerif
open Generated.ValidCode

/-- close a leaf: `simp_all`, substituting the equations it uncovers -/
macro "vc_close" : tactic =>
  `(tactic| first | (simp_all; done) | (simp_all; subst_vars; simp_all; done) | (subst_vars; simp_all; done))

/-- the generated recursion that stands for `.iter().all(..)` is `List.all` -/
theorem gen_all_is_List_all (t : ArgT) (xs : List Val) : is_valid_all_1 t xs = xs.all (fun v => is_valid t v) := by
  induction xs with
  | nil => simp [is_valid_all_1]
  | cons x xs ih => simp [is_valid_all_1, ih]

/-- the generated recursion that stands for `.iter().any(..)` is `List.any` -/
theorem gen_any_is_List_any (v : Val) (ts : List ArgT) : is_valid_any_1 v ts = ts.any (fun t => is_valid t v) := by
  induction ts with
  | nil => simp [is_valid_any_1]
  | cons t ts ih => simp [is_valid_any_1, ih]

theorem vc_allValid_of (t : ArgT) (h : ∀ v, is_valid t v = t.isValid v) (xs : List Val) :
    is_valid_all_1 t xs = allValid t xs := by
  induction xs with
  | nil => simp [is_valid_all_1, allValid]
  | cons x xs ih => simp [is_valid_all_1, allValid, ih, h]

mutual
theorem gen_is_valid_eq : (t : ArgT) → (v : Val) → is_valid t v = t.isValid v := by
  intro t v
  unfold is_valid ArgT.isValid
  cases t with
  | typedArray t => cases v <;> first | rfl | exact vc_allValid_of t (gen_is_valid_eq t) _
  | union ts => exact gen_any_valid_eq ts v
  | _ => cases v <;> rfl
theorem gen_any_valid_eq : (ts : List ArgT) → (v : Val) → is_valid_any_1 v ts = anyValid ts v
  | [], v => by unfold is_valid_any_1 anyValid; rfl
  | t :: ts, v => by
    unfold is_valid_any_1 anyValid
    rw [gen_is_valid_eq t v, gen_any_valid_eq ts v]
end

theorem gen_float_eq_eq (a b : F64) : float_eq a b = floatEq a b := by
  unfold float_eq floatEq
  repeat' split
  all_goals simp_all

theorem gen_jtype_name_eq (t : JType) : jmespath_type_fmt t = t.name := by cases t <;> rfl

theorem vc_intercalate_names (ts : List ArgT) : String.intercalate "|" (ts.map ArgT.name) = unionName ts := by
  induction ts with
  | nil => simp [unionName, String.intercalate]
  | cons t ts ih =>
    cases ts with
    | nil => simp [unionName]
    | cons t' ts => simp only [List.map_cons, String.intercalate_cons_cons, unionName] at *; rw [ih]

mutual
theorem gen_argt_name_eq : (t : ArgT) → argument_type_fmt t = t.name
  | .any => by simp [argument_type_fmt, ArgT.name]
  | .null => by simp [argument_type_fmt, ArgT.name]
  | .string => by simp [argument_type_fmt, ArgT.name]
  | .number => by simp [argument_type_fmt, ArgT.name]
  | .bool => by simp [argument_type_fmt, ArgT.name]
  | .object => by simp [argument_type_fmt, ArgT.name]
  | .array => by simp [argument_type_fmt, ArgT.name]
  | .expref => by simp [argument_type_fmt, ArgT.name]
  | .typedArray t => by simp [argument_type_fmt, ArgT.name, gen_argt_name_eq t]
  | .union ts => by
    simp only [argument_type_fmt, ArgT.name, gen_argt_names_eq ts]
    exact vc_intercalate_names ts
theorem gen_argt_names_eq : (ts : List ArgT) → argument_type_fmt_map_1 ts = ts.map ArgT.name
  | [] => by simp [argument_type_fmt_map_1]
  | t :: ts => by simp [argument_type_fmt_map_1, gen_argt_name_eq t, gen_argt_names_eq ts]
end

@[simp] theorem vc_toExcept_ok {α} (off : Nat) (a : α) : toExcept off (.ok a : Except Fail α) = .ok a := rfl
@[simp] theorem vc_toExcept_err {α} (off : Nat) (e : RtErr) :
    toExcept off (.error (.err e) : Except Fail α) = .error (.runtime e off) := rfl
@[simp] theorem vc_toExcept_fault {α} (off : Nat) (f : Fault) :
    toExcept off (.error (.fault f) : Except Fail α) = .error (.panic "index out of bounds: self.inputs[k]") := rfl

/-- the translated `validate_arity` is the model's (and it cannot fault) -/
theorem gen_valid_arity_eq (s : Sig) (n off : Nat) :
    toExcept off (validate_arity s.inputs s.variadic n) = s.validateArity n off := by
  unfold validate_arity Sig.validateArity
  simp only [apply_ite (toExcept off), vc_toExcept_ok, vc_toExcept_err]
  repeat' split
  all_goals first | rfl | (exfalso; omega) | (simp_all; done) | (simp_all; omega)

/-- `validate_arg` in closed form: it reports the position it was given and never faults -/
theorem gen_validate_arg_eq (k : Nat) (v : Val) (t : ArgT) :
    validate_arg k v t =
      if t.isValid v then .ok () else .error (.err (.invalidType t.name v.type.name k)) := by
  unfold validate_arg
  simp only [gen_is_valid_eq, gen_argt_name_eq, gen_jtype_name_eq]
  repeat' split
  all_goals simp_all

theorem vc_indexChecked_eq {α} (xs : List α) (k : Nat) :
    Generated.Code.indexChecked xs k = match xs[k]? with | some x => .ok x | none => .error .outOfBounds := by
  unfold Generated.Code.indexChecked; rfl

/-- how a `match r with | .error e => .error e | .ok _ => .ok ()` reads under `toExcept` -/
theorem vc_toExcept_pass (off : Nat) (r : Except Fail Unit) :
    toExcept off (match r with | .error e => .error e | .ok _ => .ok ()) = toExcept off r := by
  cases r <;> rfl

/-- **`Signature::validate`**: the translated function (arity check, then the first offending position in argument
order) is the model's `Sig.validate`.  Two scripts under `first`, one per shape the translator may emit: the source's two loops
(variadic / non-variadic), or one merged loop (`self.inputs.get(k).or(self.variadic.as_ref())` with the checked index as
the fallback).  Only the first that applies is checked; for the present source that is the two-loop script. -/
theorem gen_validate_eq (s : Sig) (args : List Val) (off : Nat) :
    toExcept off (validate s.inputs s.variadic args) = s.validate args off := by
  have ha := gen_valid_arity_eq s args.length off
  first
  | -- two loops
    (have l1 : ∀ (var : ArgT), s.variadic = some var → ∀ (args : List Val) (k : Nat),
          toExcept off (validate_loop_1 s.inputs s.variadic var k args) = s.validateArgs off k args := by
        intro var hv args
        induction args with
        | nil => intro k; simp [validate_loop_1, Sig.validateArgs]
        | cons v vs ih =>
          intro k
          simp only [validate_loop_1, Sig.validateArgs, gen_validate_arg_eq, hv]
          cases h : s.inputs[k]? <;> simp only [Option.getD] <;> (repeat' split) <;> vc_close
     have l2 : s.variadic = none → ∀ (args : List Val) (k : Nat),
          toExcept off (validate_loop_2 s.inputs s.variadic k args) = s.validateArgs off k args := by
        intro hv args
        induction args with
        | nil => intro k; simp [validate_loop_2, Sig.validateArgs]
        | cons v vs ih =>
          intro k
          simp only [validate_loop_2, Sig.validateArgs, gen_validate_arg_eq, vc_indexChecked_eq, hv]
          cases h : s.inputs[k]? <;> simp only [] <;> (repeat' split) <;> vc_close
     unfold validate Sig.validate
     rw [← ha]
     cases hA : validate_arity s.inputs s.variadic args.length with
     | error e => cases e <;> simp [toExcept]
     | ok u =>
       cases hv : s.variadic with
       | some var =>
         have h1 := l1 var hv args 0
         rw [hv] at h1
         simp only [vc_toExcept_ok]
         rw [← h1]
         cases validate_loop_1 s.inputs (some var) var 0 args with
         | error e => cases e <;> simp [toExcept]
         | ok u => simp
       | none =>
         have h2 := l2 hv args 0
         rw [hv] at h2
         simp only [vc_toExcept_ok]
         rw [← h2]
         cases validate_loop_2 s.inputs none 0 args with
         | error e => cases e <;> simp [toExcept]
         | ok u => simp)
  | -- one merged loop
    (have hl : ∀ (args : List Val) (k : Nat),
          toExcept off (validate_loop_1 s.inputs s.variadic k args) = s.validateArgs off k args := by
        intro args
        induction args with
        | nil => intro k; simp [validate_loop_1, Sig.validateArgs]
        | cons v vs ih =>
          intro k
          simp only [validate_loop_1, Sig.validateArgs, gen_validate_arg_eq, vc_indexChecked_eq, Option.or]
          cases h : s.inputs[k]? <;> cases hv : s.variadic <;> (repeat' split) <;> vc_close
     unfold validate Sig.validate
     rw [← ha, ← hl args 0]
     cases validate_arity s.inputs s.variadic args.length with
     | error e => cases e <;> simp [toExcept]
     | ok u =>
       cases validate_loop_1 s.inputs s.variadic 0 args with
       | error e => cases e <;> simp [toExcept]
       | ok u => simp)

/-- **safety of `Signature::validate`**: after the arity check the checked `self.inputs[k]` of the non-variadic loop is
never out of bounds, and nothing else can panic: the translated function never returns a `Fault`.  A `Fault` reads as a
panic under `toExcept`, the translated function reads as the model's (`gen_validate_eq`), and the model's validator
does not panic (`validate_no_panic`: the arity check leaves `k + |rest| ≤ |inputs|`). -/
theorem gen_validate_no_fault (inputs : List ArgT) (variadic : Option ArgT) (args : List Val) (f : Fault) :
    validate inputs variadic args ≠ .error (.fault f) := by
  intro hc
  have h := gen_validate_eq ⟨inputs, variadic⟩ args 0
  rw [hc] at h
  exact validate_no_panic _ args 0 _ h.symm

mutual
theorem gen_eq_eq : (a b : Val) → variable_eq a b = Val.beq a b := by
  intro a b
  unfold variable_eq Val.beq
  -- values of different types are unequal on both sides by evaluation; the payloads are compared on the diagonal
  cases a with
  | num x => cases b <;> first | rfl | exact gen_float_eq_eq _ _
  | arr xs => cases b <;> first | rfl | exact gen_eq_vec_eq xs _
  | obj xs => cases b <;> first | rfl | exact gen_eq_map_eq xs _
  | _ => cases b <;> rfl
theorem gen_eq_vec_eq : (xs ys : List Val) → eq_vec xs ys = valsBeq xs ys
  | [], [] | [], _ :: _ | _ :: _, [] => by unfold eq_vec valsBeq; rfl
  | a :: xs, b :: ys => by
    unfold eq_vec valsBeq
    rw [gen_eq_eq a b, gen_eq_vec_eq xs ys]
theorem gen_eq_map_eq : (xs ys : List (String × Val)) → eq_map xs ys = kvsBeq xs ys
  | [], [] | [], _ :: _ | _ :: _, [] => by unfold eq_map kvsBeq; rfl
  | (k, a) :: xs, (k', b) :: ys => by
    unfold eq_map kvsBeq
    rw [gen_eq_eq a b, gen_eq_map_eq xs ys]
end

theorem gen_cmp_eq (a b : Val) : variable_cmp a b = Val.cmp a b := by
  -- only two strings or two numbers are ordered; every other pair compares `Equal` whatever the right operand is
  cases a with
  | str x => cases b <;> simp [variable_cmp, Val.cmp, Val.type, as_string, as_number, f64PartialCmp]
  | num x =>
    cases b <;> simp [variable_cmp, Val.cmp, Val.type, as_string, as_number, f64PartialCmp]
    repeat' split
    all_goals simp_all
  | _ => simp [variable_cmp, Val.cmp, Val.type, as_string, as_number, f64PartialCmp]

/-! ### non-vacuity: the translated code on concrete inputs -/

section Examples

attribute [local simp] validate validate_arity validate_loop_1 validate_arg is_valid is_valid_all_1 is_valid_any_1
  argument_type_fmt argument_type_fmt_map_1 jmespath_type_fmt Val.type Generated.Code.indexChecked
  as_array as_object as_string as_number as_boolean as_null as_expref is_array is_object
  is_string is_number is_boolean is_null is_expref variable_eq eq_vec eq_map variable_cmp
  String.intercalate_cons_cons Option.or

/-- evaluate the translated definitions on a closed term (`validate` has a second loop function only while the
source has two loops) -/
macro "vc_eval" : tactic => `(tactic| first | simp [validate_loop_2] | simp)

example : validate [.number] none [.str "a"] = .error (.err (.invalidType "number" "string" 0)) := by vc_eval
/-- two offending arguments: the first one (position 1) is reported -/
example : validate [.number, .string, .number] none [.num (.pos 1), .num (.pos 2), .str "x"]
    = .error (.err (.invalidType "string" "number" 1)) := by vc_eval
example : validate [.string] (some (.union [.number, .typedArray .string])) [.str "a", .num (.pos 1), .null]
    = .error (.err (.invalidType "number|array[string]" "null" 2)) := by vc_eval
/-- arity is checked before the types -/
example : validate [.string] (some .number) [] = .error (.err (.notEnough 1 0)) := by vc_eval
example : validate [.string] none [.null, .null] = .error (.err (.tooMany 1 2)) := by vc_eval
example : validate [.string] (some .number) [.str "a", .num (.pos 1)] = .ok () := by vc_eval
/-- the checked index of the non-variadic loop is a real check: without the arity check it does fault -/
example : True := by
  first
  | (have : validate_loop_2 [] none 0 [.null] = .error (.fault .outOfBounds) := by vc_eval
     trivial)
  | (have : validate_loop_1 [] none 0 [.null] = .error (.fault .outOfBounds) := by vc_eval
     trivial)
example : is_valid (.typedArray .number) (.arr [.num (.pos 1), .str "a"]) = false := by vc_eval
example : is_valid (.typedArray .number) (.arr [.num (.pos 1), .num (.pos 3)]) = true := by vc_eval
example : is_valid (.typedArray .number) (.arr []) = true ∧ is_valid (.typedArray .number) .null = false := by vc_eval
example : is_valid (.union [.string, .null]) .null = true ∧ is_valid (.union []) .null = false := by vc_eval
example : is_valid .null (.str "") = false := by vc_eval
example : variable_eq (.arr [.str "a"]) (.arr [.str "a", .null]) = false := by vc_eval
example : variable_eq (.arr [.str "a", .null]) (.arr [.str "a", .null]) = true := by vc_eval
example : variable_eq (.obj [("a", .null)]) (.obj [("b", .null)]) = false := by vc_eval
example : variable_eq (.str "1") (.num (.pos 1)) = false := by vc_eval
example : variable_eq (.num (.pos 1)) (.num (.flt (F64.ofNat 1))) = true := by decide +kernel
example : variable_cmp (.str "b") (.str "a") = .gt := by vc_eval; decide
example : variable_cmp (.num (.pos 1)) (.num (.pos 2)) = .lt ∧ variable_cmp (.str "b") .null = .eq := by decide +kernel
example : argument_type_fmt (.union [.number, .typedArray .string, .null]) = "number|array[string]|null" := by vc_eval
example : float_eq (F64.ofNat 1) (F64.ofNat 2) = false ∧ float_eq F64.nan F64.nan = false := by decide +kernel
/-- `0.1 + 0.2` and `0.3` differ as doubles but are `float_eq` -/
example : float_eq (F64.add (F64.ofRat (1/10)) (F64.ofRat (2/10))) (F64.ofRat (3/10)) = true
    ∧ F64.feq (F64.add (F64.ofRat (1/10)) (F64.ofRat (2/10))) (F64.ofRat (3/10)) = false := by decide +kernel

end Examples

end JmesVerif

#print axioms JmesVerif.gen_is_valid_eq
#print axioms JmesVerif.gen_all_is_List_all
#print axioms JmesVerif.gen_any_is_List_any
#print axioms JmesVerif.gen_jtype_name_eq
#print axioms JmesVerif.gen_argt_name_eq
#print axioms JmesVerif.gen_valid_arity_eq
#print axioms JmesVerif.gen_validate_arg_eq
#print axioms JmesVerif.gen_validate_eq
#print axioms JmesVerif.gen_validate_no_fault
#print axioms JmesVerif.gen_float_eq_eq
#print axioms JmesVerif.gen_eq_eq
#print axioms JmesVerif.gen_cmp_eq
