import JmesVerif.Lemmas.JsonRoundTripStr
import JmesVerif.Lemmas.JsonRoundTripNum
namespace JmesVerif
namespace JsonRT
open JsonText JsonPrint

theorem skipWs_idem (cs : List Char) : skipWs (skipWs cs) = skipWs cs := by
  induction cs with
  | nil => rfl
  | cons c cs ih =>
    by_cases h : isWs c = true
    · simp [skipWs, h, ih]
    · simp [skipWs, h]

theorem parseValue_skipWs (fuel depth : Nat) (cs : List Char) :
    parseValue fuel depth (skipWs cs) = parseValue fuel depth cs := by
  cases fuel with
  | zero => simp [parseValue]
  | succ f => rw [parseValue, parseValue, skipWs_idem]

theorem parseElems_skipWs (fuel depth : Nat) (cs : List Char) (acc : List Val) :
    parseElems fuel depth (skipWs cs) acc = parseElems fuel depth cs acc := by
  cases fuel with
  | zero => simp [parseElems]
  | succ f => rw [parseElems, parseElems, parseValue_skipWs]

theorem parseMembers_skipWs (fuel depth : Nat) (cs : List Char) (acc : List (String × Val)) :
    parseMembers fuel depth (skipWs cs) acc = parseMembers fuel depth cs acc := by
  cases fuel with
  | zero => simp [parseMembers]
  | succ f => rw [parseMembers, parseMembers, skipWs_idem]

theorem parseValue_ne_close {fuel depth : Nat} {cs : List Char} {res : Val × List Char}
    (h : parseValue fuel depth cs = some res) (r : List Char) : skipWs cs ≠ ']' :: r := by
  intro he
  cases fuel with
  | zero => simp [parseValue] at h
  | succ f =>
    rw [parseValue, he] at h
    simp [JsonText.isDigit] at h

theorem parseElems_ne_close {fuel depth : Nat} {cs : List Char} {acc : List Val} {res : List Val × List Char}
    (h : parseElems fuel depth cs acc = some res) (r : List Char) : skipWs cs ≠ ']' :: r := by
  cases fuel with
  | zero => simp [parseElems] at h
  | succ f =>
    rw [parseElems] at h
    split at h
    · simp at h
    · rename_i hv; exact parseValue_ne_close hv r

theorem parseMembers_ne_close {fuel depth : Nat} {cs : List Char} {acc : List (String × Val)}
    {res : List (String × Val) × List Char}
    (h : parseMembers fuel depth cs acc = some res) (r : List Char) : skipWs cs ≠ '}' :: r := by
  intro he
  cases fuel with
  | zero => simp [parseMembers] at h
  | succ f =>
    rw [parseMembers, he] at h
    simp at h

/-- number results do not depend on fuel (beyond one unit) or depth -/
theorem parseValue_num_lift {d cs n r} (h : parseValue 1 d cs = some (.num n, r)) (fuel d' : Nat) :
    parseValue (fuel + 1) d' cs = some (.num n, r) := by
  rw [parseValue] at h ⊢
  split at h
  all_goals first | exact h | skip
  all_goals simp only [parseElems, parseMembers] at h
  all_goals split at h
  all_goals try simp at h
  all_goals split at h
  all_goals simp at h

theorem parseValue_arr_nil (f dp : Nat) (hdp : 1 < dp) (cs rest : List Char) (h : skipWs cs = ']' :: rest) :
    parseValue (f + 1) dp ('[' :: cs) = some (.arr [], rest) := by
  rw [parseValue]
  simp [skipWs, isWs, h]; omega

theorem parseValue_obj_nil (f dp : Nat) (hdp : 1 < dp) (cs rest : List Char) (h : skipWs cs = '}' :: rest) :
    parseValue (f + 1) dp ('{' :: cs) = some (.obj [], rest) := by
  rw [parseValue]
  simp [skipWs, isWs, h]; omega

theorem parseValue_arr_of_elems {f dp : Nat} {cs rest : List Char} {xs : List Val} (hdp : 1 < dp)
    (h : parseElems f (dp - 1) cs [] = some (xs, rest)) :
    parseValue (f + 1) dp ('[' :: cs) = some (.arr xs, rest) := by
  -- the side condition of the non-empty branch of the `[` arm; `rw [parseValue]` finds it in the context
  have hne := parseElems_ne_close h
  rw [← parseElems_skipWs] at h
  rw [parseValue]
  have : skipWs ('[' :: cs) = '[' :: cs := by simp [skipWs, isWs]
  simp only [this]
  rw [if_neg (by omega), h]; rfl

theorem parseValue_obj_of_members {f dp : Nat} {cs rest : List Char} {kvs : List (String × Val)} (hdp : 1 < dp)
    (h : parseMembers f (dp - 1) cs [] = some (kvs, rest)) :
    parseValue (f + 1) dp ('{' :: cs) = some (.obj kvs, rest) := by
  -- as in `parseValue_arr_of_elems`
  have hne := parseMembers_ne_close h
  rw [← parseMembers_skipWs] at h
  rw [parseValue]
  have : skipWs ('{' :: cs) = '{' :: cs := by simp [skipWs, isWs]
  simp only [this]
  rw [if_neg (by omega), h]; rfl

theorem parseElems_last {f dp : Nat} {cs r rest : List Char} {v : Val} {acc : List Val}
    (h : parseValue f dp cs = some (v, r)) (hr : skipWs r = ']' :: rest) :
    parseElems (f + 1) dp cs acc = some ((v :: acc).reverse, rest) := by
  rw [parseElems, h]; simp only [hr]

theorem parseElems_more {f dp : Nat} {cs r r' : List Char} {v : Val} {acc : List Val}
    (h : parseValue f dp cs = some (v, r)) (hr : skipWs r = ',' :: r') :
    parseElems (f + 1) dp cs acc = parseElems f dp r' (v :: acc) := by
  rw [parseElems, h]; simp only [hr]

theorem parseMembers_last {f dp : Nat} {cs r1 r2 r3 rest : List Char} {k : String} {v : Val}
    {acc : List (String × Val)}
    (hk : skipWs cs = '"' :: (k.toList.flatMap escapeChar ++ '"' :: r1)) (hc : skipWs r1 = ':' :: r2)
    (hv : parseValue f dp r2 = some (v, r3)) (h3 : skipWs r3 = '}' :: rest) :
    parseMembers (f + 1) dp cs acc = some (insertKV k v acc, rest) := by
  rw [parseMembers, hk]; simp only [parseStrBody_quote, hc, hv, h3, String.ofList_toList]

theorem parseMembers_more {f dp : Nat} {cs r1 r2 r3 r4 : List Char} {k : String} {v : Val}
    {acc : List (String × Val)}
    (hk : skipWs cs = '"' :: (k.toList.flatMap escapeChar ++ '"' :: r1)) (hc : skipWs r1 = ':' :: r2)
    (hv : parseValue f dp r2 = some (v, r3)) (h3 : skipWs r3 = ',' :: r4) :
    parseMembers (f + 1) dp cs acc = parseMembers f dp r4 (insertKV k v acc) := by
  rw [parseMembers, hk]; simp only [parseStrBody_quote, hc, hv, h3, String.ofList_toList]

theorem parseValue_str (f dp : Nat) (cs r1 : List Char) (s : String)
    (hk : skipWs cs = '"' :: (s.toList.flatMap escapeChar ++ '"' :: r1)) :
    parseValue (f + 1) dp cs = some (.str s, r1) := by
  rw [parseValue, hk]; simp only [parseStrBody_quote, Option.map_some, String.ofList_toList]

end JsonRT
end JmesVerif
