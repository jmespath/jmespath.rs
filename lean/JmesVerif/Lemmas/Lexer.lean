import JmesVerif.Lemmas.LexStep
/-!
The shape of what `tokenize` returns (`tokenize_shape`): tokens that are never the end marker, with
number tokens within ±(2^31 − 1) (`Tok.numOk`), then exactly one end marker at the byte length of the input.
-/
namespace JmesVerif

def Tok.isEof : Tok → Bool
  | .eof => true
  | _ => false

def Tok.numOk : Tok → Bool
  | .number n => decide (-2147483647 ≤ n ∧ n ≤ 2147483647)
  | _ => true

theorem Tok.real_of_isPunct {t : Tok} (h : t.isPunct = true) : t.isEof = false ∧ t.numOk = true := by
  cases t <;> first | exact ⟨rfl, rfl⟩ | cases h

/-- every token `lexOne` emits is a real token (never the end marker), and a number token fits
the documented range |n| ≤ 2^31 − 1 -/
theorem lexOne_tok (pos : Nat) (c : Char) (cs : List Char) (t : Tok) (r : List Char)
    (h : Lexer.lexOne pos c cs = .ok (some t, r)) : t.isEof = false ∧ t.numOk = true := by
  cases lexOne_step h with
  | one _ ht | two _ _ ht => exact Tok.real_of_isPunct ht
  | number _ hv | negative _ hv => exact ⟨rfl, by simp only [Tok.numOk, decide_eq_true_eq]; omega⟩
  | _ => exact ⟨rfl, rfl⟩

/-- the token list the lexer returns is what it had accumulated, then real tokens, then exactly
one end marker positioned at the end of the input -/
theorem lexLoop_shape (total : Nat) : ∀ (fuel : Nat) (cs : List Char) (acc ts : List (Nat × Tok)),
    Lexer.loop total fuel cs acc = .ok ts →
    ∃ mid, ts = acc.reverse ++ mid ++ [(total, Tok.eof)] ∧
      ∀ pt ∈ mid, pt.2.isEof = false ∧ pt.2.numOk = true := by
  intro fuel
  induction fuel with
  | zero => intro cs acc ts h; simp [Lexer.loop] at h
  | succ n ih =>
    intro cs acc ts h
    cases cs with
    | nil =>
      simp [Lexer.loop] at h
      exact ⟨[], by simp [← h], by simp⟩
    | cons c cs' =>
      simp only [Lexer.loop] at h
      split at h
      · simp at h
      · rename_i t r hlex
        obtain ⟨mid, rfl, hm⟩ := ih _ _ _ h
        refine ⟨(total - Lexer.utf8Len (c :: cs'), t) :: mid, by simp, ?_⟩
        intro pt hpt
        rcases List.mem_cons.mp hpt with rfl | hpt
        · exact lexOne_tok _ _ _ _ _ hlex
        · exact hm _ hpt
      · exact ih _ _ _ h

theorem tokenize_shape (cs : List Char) (ts : List (Nat × Tok)) (h : tokenize cs = .ok ts) :
    ∃ mid, ts = mid ++ [(Lexer.utf8Len cs, Tok.eof)] ∧
      ∀ pt ∈ mid, pt.2.isEof = false ∧ pt.2.numOk = true := by
  obtain ⟨mid, h1, h2⟩ := lexLoop_shape _ _ _ _ _ h
  exact ⟨mid, by simpa using h1, h2⟩

end JmesVerif
