import JmesVerif.Lemmas.InterpMono
/-!
A divergent expression: an expression reference that reaches the data can apply itself.
`Ω = to_array(not_null(&map(@[0], [@]))) | map(@[0], [@])`.
-/
namespace JmesVerif

/-- `map(@[0], [@])` with arbitrary offsets -/
def mapSelf (o1 o2 o3 o4 o5 o6 : Nat) : Ast :=
  .function o1 "map" [.subexpr o2 (.identity o3) (.index o4 0), .multiList o5 [.identity o6]]

def omegaBody : Ast := .function 0 "map" [.subexpr 0 (.identity 0) (.index 0 0), .multiList 0 [.identity 0]]
def omega : Ast := .subexpr 0 (.function 0 "to_array" [.function 0 "not_null" [.expref 0 omegaBody]]) omegaBody

/-- Ω with arbitrary offsets (the shape the parser produces) -/
def omegaAt (s t n e : Nat) (p1 p2 p3 p4 p5 p6 q1 q2 q3 q4 q5 q6 : Nat) : Ast :=
  .subexpr s (.function t "to_array" [.function n "not_null" [.expref e (mapSelf p1 p2 p3 p4 p5 p6)]])
    (mapSelf q1 q2 q3 q4 q5 q6)

theorem omegaBody_eq : omegaBody = mapSelf 0 0 0 0 0 0 := rfl
theorem omega_eq : omega = omegaAt 0 0 0 0 0 0 0 0 0 0 0 0 0 0 0 0 := rfl

theorem reg_map : Registry.default.get "map" = some (.builtin .map) := by
  simp [Registry.default, Builtin.all, Registry.get]
theorem reg_toArray : Registry.default.get "to_array" = some (.builtin .toArray) := by
  simp [Registry.default, Builtin.all, Registry.get]
theorem reg_notNull : Registry.default.get "not_null" = some (.builtin .notNull) := by
  simp [Registry.default, Builtin.all, Registry.get]

theorem omega_args (e : Val) (o2 o3 o4 o5 o6 off : Nat) : interpAll Registry.default 6 (.arr [e])
    [.subexpr o2 (.identity o3) (.index o4 0), .multiList o5 [.identity o6]] off
    = .ok ([e, .arr [.arr [e]]], off) := by
  simp [interpAll, interp, indexList, getIndex, Val.isNull]

/-- the self-application loop: `map(@[0], [@])` applied to `[&map(@[0], [@])]` never finishes -/
theorem mapSelf_diverges (p1 p2 p3 p4 p5 p6 : Nat) : ∀ (fuel o1 o2 o3 o4 o5 o6 off : Nat),
    interp Registry.default fuel (.arr [.expref (mapSelf p1 p2 p3 p4 p5 p6)]) (mapSelf o1 o2 o3 o4 o5 o6) off
      = .error .fuel := by
  intro fuel
  induction fuel using Nat.strongRecOn with
  | _ fuel ih =>
    intro o1 o2 o3 o4 o5 o6 off
    match fuel with
    | 0 => simp [interp]
    | n + 1 =>
      show interp Registry.default (n + 1) _ (.function o1 "map"
        [.subexpr o2 (.identity o3) (.index o4 0), .multiList o5 [.identity o6]]) off = _
      rw [interp]
      rcases interpAll_det _ _ _ _ _ _ (omega_args (.expref (mapSelf p1 p2 p3 p4 p5 p6)) o2 o3 o4 o5 o6 off)
        (by simp) n with h | h
      · rw [h]
      · rw [h]
        simp only [reg_map]
        match n with
        | 0 => simp [callFn]
        | k + 1 =>
          rw [callFn_map]
          match k with
          | 0 => simp [mapExpref]
          | j + 1 =>
            rw [mapExpref]
            rw [ih j (by omega) p1 p2 p3 p4 p5 p6 o1]

theorem omegaBody_diverges (fuel off : Nat) :
    interp Registry.default fuel (.arr [.expref omegaBody]) omegaBody off = .error .fuel :=
  mapSelf_diverges 0 0 0 0 0 0 fuel 0 0 0 0 0 0 off

theorem omega_lhs (d : Val) (body : Ast) (t n e off : Nat) : interp Registry.default 8 d
    (.function t "to_array" [.function n "not_null" [.expref e body]]) off
    = .ok (.arr [.expref body], off) := by
  simp [interp, interpAll, reg_toArray, reg_notNull, callFn, Builtin.sig, Sig.validate,
    Sig.validateArity, Sig.validateArgs, ArgT.isValid, Builtin.pure, Builtin.usesExpref, Val.isNull]

/-- Ω diverges whatever the offsets recorded in the tree, the data and the initial offset -/
theorem omegaAt_diverges (s t n e p1 p2 p3 p4 p5 p6 q1 q2 q3 q4 q5 q6 : Nat) (fuel : Nat) (d : Val) (off : Nat) :
    interp Registry.default fuel d (omegaAt s t n e p1 p2 p3 p4 p5 p6 q1 q2 q3 q4 q5 q6) off = .error .fuel := by
  match fuel with
  | 0 => simp [interp]
  | m + 1 =>
    rw [omegaAt, interp]
    rcases interp_det _ _ _ _ _ _ (omega_lhs d (mapSelf p1 p2 p3 p4 p5 p6) t n e off) (by simp) m with h | h
    · rw [h]
    · rw [h]
      exact mapSelf_diverges _ _ _ _ _ _ m _ _ _ _ _ _ off

theorem omega_diverges (fuel : Nat) (d : Val) : interp Registry.default fuel d omega 0 = .error .fuel :=
  omegaAt_diverges 0 0 0 0 0 0 0 0 0 0 0 0 0 0 0 0 fuel d 0

/-- hence `search` (the model of `Expression::search`) never returns on Ω -/
theorem omega_search_diverges (fuel : Nat) (d : Val) : search Registry.default fuel omega d = .error .fuel := by
  simp [search, omega_diverges]

end JmesVerif
