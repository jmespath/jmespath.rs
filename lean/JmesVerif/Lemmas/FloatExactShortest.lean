import JmesVerif.Lemmas.FloatExactLog
import JmesVerif.Lemmas.JsonRoundTripNum
/-!
# The shortest-digits search is correct

`JsonPrint.shortest f` (for a positive finite canonical double `f`) either falls through its 17 rounds
(returning the digits `0`), or returns decimal digits `ds` with a non-zero leading digit and a scientific
exponent `ex` such that the decimal number `d₁.d₂d₃… × 10^ex` they spell rounds to `f`:
`F64.ofRat (D · 10^(ex − (|ds| − 1))) = f` where `D` is the natural number written by `ds`.
-/
namespace JmesVerif
namespace FloatExact
open F64

/-- what the digit search returns when it succeeds -/
structure DigitsSpec (f : F64) (ds : List Char) (ex : Int) : Prop where
  isDigit : ∀ c ∈ ds, JsonText.isDigit c = true
  head : ∃ c l, ds = c :: l ∧ 49 ≤ c.toNat ∧ c.toNat ≤ 57
  /-- the number `d₁.d₂d₃… × 10^ex` rounds to `f` -/
  value : F64.ofRat ((Nat.ofDigitChars 10 ds 0 : Nat) * JsonPrint.pow10 (ex - ((ds.length : Int) - 1))) = f

theorem takeWhile_eq_replicate (l : List Char) :
    l.takeWhile (· = '0') = List.replicate (l.takeWhile (· = '0')).length '0' := by
  induction l with
  | nil => rfl
  | cons c l ih =>
    by_cases h : c = '0'
    · subst h
      simp only [List.takeWhile_cons, decide_true, if_true, List.length_cons, List.replicate_succ]
      rw [← ih]
    · simp [h]

theorem strip_append (l : List Char) :
    ∃ t, l = JsonPrint.stripTrailingZeros l ++ List.replicate t '0' := by
  refine ⟨(l.reverse.takeWhile (· = '0')).length, ?_⟩
  have h := List.takeWhile_append_dropWhile (p := (· = '0')) (l := l.reverse)
  have h2 : l = (l.reverse.dropWhile (· = '0')).reverse ++ (l.reverse.takeWhile (· = '0')).reverse := by
    rw [← List.reverse_append, h, List.reverse_reverse]
  have h3 : (l.reverse.takeWhile (· = '0')).reverse =
      List.replicate (l.reverse.takeWhile (· = '0')).length '0' := by
    have := congrArg List.reverse (takeWhile_eq_replicate l.reverse)
    rw [List.reverse_replicate] at this
    exact this
  unfold JsonPrint.stripTrailingZeros
  rw [← h3]; exact h2

/-- the `p` digits of `N`, trailing zeros stripped: `N = D · 10^t` with `D` written by the result -/
theorem strip_digits_spec {N p : Nat} (hp : 1 ≤ p) (h1 : 10 ^ (p - 1) ≤ N) (h2 : N < 10 ^ p) :
    ∃ t, (JsonPrint.stripTrailingZeros (Nat.toDigits 10 N)).length + t = p ∧
      N = Nat.ofDigitChars 10 (JsonPrint.stripTrailingZeros (Nat.toDigits 10 N)) 0 * 10 ^ t ∧
      (∀ c ∈ JsonPrint.stripTrailingZeros (Nat.toDigits 10 N), JsonText.isDigit c = true) ∧
      (∃ c l, JsonPrint.stripTrailingZeros (Nat.toDigits 10 N) = c :: l ∧ 49 ≤ c.toNat ∧ c.toNat ≤ 57) := by
  have hNpos : 0 < N := Nat.lt_of_lt_of_le (Nat.pow_pos (by decide)) h1
  have hlen : (Nat.toDigits 10 N).length = p := by
    have a := (Nat.length_toDigits_le_iff (b := 10) (n := N) (by decide) hp).2 h2
    by_cases hp1 : p = 1
    · have := Nat.length_toDigits_pos (b := 10) (n := N); omega
    · have b := (Nat.length_toDigits_le_iff (b := 10) (n := N) (k := p - 1) (by decide) (by omega))
      have : ¬ (Nat.toDigits 10 N).length ≤ p - 1 := fun h => by have := b.1 h; omega
      omega
  obtain ⟨t, ht⟩ := strip_append (Nat.toDigits 10 N)
  obtain ⟨d0, tl, hd, hd1, hd2⟩ := JsonRT.toDigits_head N hNpos
  have hval : Nat.ofDigitChars 10 (Nat.toDigits 10 N) 0 = N := Nat.ofDigitChars_ten_toDigits
  generalize hds : JsonPrint.stripTrailingZeros (Nat.toDigits 10 N) = ds at *
  refine ⟨t, ?_, ?_, ?_, ?_⟩
  · have := congrArg List.length ht
    rw [List.length_append, List.length_replicate, hlen] at this
    exact this.symm
  · rw [ht, Nat.ofDigitChars_append, Nat.ofDigitChars_replicate_zero] at hval
    rw [← hval, Nat.mul_comm]
  · intro c hc
    apply JsonRT.isDigit_of_mem_toDigits (n := N)
    rw [ht]; exact List.mem_append_left _ hc
  · cases ds with
    | nil =>
      exfalso
      rw [hd, List.nil_append] at ht
      cases t with
      | zero => simp at ht
      | succ t =>
        rw [List.replicate_succ] at ht
        injection ht with h0 _
        rw [h0] at hd1; revert hd1; decide
    | cons c l =>
      rw [hd, List.cons_append] at ht
      injection ht with h0 _
      exact ⟨c, l, rfl, h0 ▸ hd1, h0 ▸ hd2⟩

theorem scaled_bounds {q : Rat} {e10 : Int} (hlo : JsonPrint.pow10 e10 ≤ q)
    (hhi : q < JsonPrint.pow10 (e10 + 1)) (p : Nat) (hp : 1 ≤ p) :
    ((10 ^ (p - 1) : Nat) : Rat) ≤ q * JsonPrint.pow10 ((p : Int) - 1 - e10) ∧
    q * JsonPrint.pow10 ((p : Int) - 1 - e10) < ((10 ^ p : Nat) : Rat) := by
  have hs := p10_pos ((p : Int) - 1 - e10)
  have e1 : JsonPrint.pow10 ((p - 1 : Nat) : Int) = JsonPrint.pow10 e10 * JsonPrint.pow10 ((p : Int) - 1 - e10) := by
    rw [← p10_add]; congr 1; omega
  have e2 : JsonPrint.pow10 ((p : Nat) : Int) = JsonPrint.pow10 (e10 + 1) * JsonPrint.pow10 ((p : Int) - 1 - e10) := by
    rw [← p10_add]; congr 1; omega
  rw [← p10_natCast, ← p10_natCast, e1, e2]
  exact ⟨Rat.mul_le_mul_of_nonneg_right hlo (Rat.le_of_lt hs), Rat.mul_lt_mul_of_pos_right hhi hs⟩

/-- `pick` of `JsonPrint.shortest.go`: whichever of `lo`, `hi` is chosen re-reads as `f`. -/
theorem pick_spec {okLo okHi : Bool} {c1 c2 c3 : Prop} [Decidable c1] [Decidable c2] [Decidable c3]
    {lo hi d : Int}
    (h : (if (okLo && okHi) = true then
            (if c1 then some lo else if c2 then some hi else if c3 then some lo else some hi)
          else if okLo = true then some lo else if okHi = true then some hi else none) = some d) :
    (d = lo ∧ okLo = true) ∨ (d = hi ∧ okHi = true) := by
  cases okLo <;> cases okHi <;> simp at h
  · exact Or.inr ⟨h.symm, rfl⟩
  · exact Or.inl ⟨h.symm, rfl⟩
  · repeat' split at h
    all_goals simp at h
    all_goals first | exact Or.inl ⟨h.symm, rfl⟩ | exact Or.inr ⟨h.symm, rfl⟩

/-- the pair a successful round returns -/
def roundOut (e10 : Int) (p : Nat) (d : Int) : List Char × Int :=
  if d.toNat = 10 ^ p then (['1'], e10 + 1)
  else (JsonPrint.stripTrailingZeros (JsonPrint.natDigits d.toNat), e10)

theorem natDigits_eq (n : Nat) : JsonPrint.natDigits n = Nat.toDigits 10 n := by
  simp [JsonPrint.natDigits]

theorem roundOut_spec {f : F64} {q : Rat} {e10 : Int} (hlo : JsonPrint.pow10 e10 ≤ q)
    (hhi : q < JsonPrint.pow10 (e10 + 1)) (p : Nat) (hp : 1 ≤ p) (d : Int)
    (hd : d = (q * JsonPrint.pow10 ((p : Int) - 1 - e10)).floor ∨
          d = (q * JsonPrint.pow10 ((p : Int) - 1 - e10)).floor + 1)
    (hv : F64.ofRat ((d : Rat) / JsonPrint.pow10 ((p : Int) - 1 - e10)) = f) :
    DigitsSpec f (roundOut e10 p d).1 (roundOut e10 p d).2 := by
  obtain ⟨b1, b2⟩ := scaled_bounds hlo hhi p hp
  generalize hs : q * JsonPrint.pow10 ((p : Int) - 1 - e10) = s at *
  have f1 : ((10 ^ (p - 1) : Nat) : Int) ≤ s.floor := by
    apply Rat.le_floor_iff.2; rw [Rat.intCast_natCast]; exact b1
  have f2 : s.floor < ((10 ^ p : Nat) : Int) := by
    apply Rat.floor_lt_iff.2; rw [Rat.intCast_natCast]; exact b2
  have hA : (0 : Int) < ((10 ^ (p - 1) : Nat) : Int) := by
    have : 0 < 10 ^ (p - 1) := Nat.pow_pos (by decide)
    exact_mod_cast this
  have hd0 : 0 ≤ d := by rcases hd with rfl | rfl <;> omega
  have hN1 : 10 ^ (p - 1) ≤ d.toNat := by rcases hd with rfl | rfl <;> omega
  have hN2 : d.toNat ≤ 10 ^ p := by rcases hd with rfl | rfl <;> omega
  have hcast : (d : Rat) = ((d.toNat : Nat) : Rat) := by
    rw [← Rat.intCast_natCast]; congr 1; omega
  rw [hcast, div_p10] at hv
  unfold roundOut
  generalize d.toNat = N at *
  split
  · rename_i hc
    subst hc
    refine ⟨?_, ⟨'1', [], rfl, by decide, by decide⟩, ?_⟩
    · intro c hc; simp at hc; subst hc; decide
    · rw [← hv]; congr 1
      have : Nat.ofDigitChars 10 ['1'] 0 = 1 := by decide
      simp only [this, List.length_cons, List.length_nil]
      rw [← p10_natCast, ← p10_add]
      have h1 : ((1 : Nat) : Rat) = 1 := by simp
      rw [h1, Rat.one_mul]
      congr 1; omega
  · rename_i hc
    obtain ⟨t, ht1, ht2, ht3, ht4⟩ := strip_digits_spec hp hN1 (by omega)
    rw [natDigits_eq]
    simp only
    generalize JsonPrint.stripTrailingZeros (Nat.toDigits 10 N) = ds at *
    refine ⟨ht3, ht4, ?_⟩
    rw [← hv]; congr 1
    rw [ht2, Rat.natCast_mul, ← p10_natCast, Rat.mul_assoc, ← p10_add]
    congr 2; omega

theorem go_spec {f : F64} {q : Rat} {e10 : Int} (hlo : JsonPrint.pow10 e10 ≤ q)
    (hhi : q < JsonPrint.pow10 (e10 + 1)) : ∀ (fuel p : Nat), 1 ≤ p →
    JsonPrint.shortest.go f q e10 fuel p = (['0'], 0) ∨
    DigitsSpec f (JsonPrint.shortest.go f q e10 fuel p).1 (JsonPrint.shortest.go f q e10 fuel p).2 := by
  intro fuel
  induction fuel with
  | zero => intro p _; left; rw [JsonPrint.shortest.go, natDigits_eq, Nat.toDigits_zero]
  | succ n ih =>
    intro p hp
    rw [JsonPrint.shortest.go]
    split
    · rename_i d heq
      right
      have hr := roundOut_spec (f := f) hlo hhi p hp d
      unfold roundOut at hr
      rcases pick_spec heq with ⟨h1, h2⟩ | ⟨h1, h2⟩
      · exact hr (Or.inl h1) (by rw [h1]; exact eq_of_beq h2)
      · exact hr (Or.inr h1) (by rw [h1]; exact eq_of_beq h2)
    · exact ih (p + 1) (by omega)

theorem toRat_pos_bounds {m : Nat} {e : Int} (hc : CanonME m e) (hm : m ≠ 0) :
    0 < (F64.fin false m e).toRat ∧ -1074 ≤ ilog2 (F64.fin false m e).toRat ∧
      ilog2 (F64.fin false m e).toRat ≤ 1023 := by
  obtain ⟨c1, c2, c3⟩ := CanonME.lt hc
  have hq : (F64.fin false m e).toRat = (m : Rat) * pow2 e := by rw [toRat_fin]; simp
  rw [hq]
  have hpos := mag_pos hm e
  have lo1 : pow2 (-1074) ≤ pow2 e := pow2_le_pow2 c2
  have lo2 := le_mag (k := 0) (Nat.pos_of_ne_zero hm) e
  rw [show ((0 : Nat) : Int) + e = e by omega] at lo2
  refine ⟨hpos, le_ilog2 (Rat.le_trans lo1 lo2), ?_⟩
  have := ilog2_lt hpos (k := 1024) (Std.lt_of_lt_of_le (mag_lt c1 e) (pow2_le_pow2 (by omega)))
  omega

/-- **the shortest-digits search is correct**: for a positive canonical double, either the search
falls through all 17 rounds (and returns the digit `0`), or the digits it returns have a non-zero
leading digit and spell — as `d₁.d₂d₃… × 10^ex` — a decimal number that rounds to the double. -/
theorem shortest_spec {m : Nat} {e : Int} (hc : CanonME m e) (hm : m ≠ 0) :
    JsonPrint.shortest (.fin false m e) = (['0'], 0) ∨
    DigitsSpec (.fin false m e) (JsonPrint.shortest (.fin false m e)).1
      (JsonPrint.shortest (.fin false m e)).2 := by
  obtain ⟨hq, l1, l2⟩ := toRat_pos_bounds hc hm
  obtain ⟨a, b⟩ := ilog10_spec hq l1 l2
  exact go_spec a b 17 1 (by decide)

end FloatExact
end JmesVerif

#print axioms JmesVerif.FloatExact.shortest_spec
