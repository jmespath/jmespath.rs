import JmesVerif.Lemmas.AbnfAttach
/-
Completeness of `Legal` w.r.t. the published ABNF, part 2: closure of "has a legal, deviation-free
tree" under each ABNF production (prefix `!`, binary operators, the postfix items).
-/
namespace JmesVerif
open GrammarCheck

/-- the token string has a legal tree without deviations F3/F4/F5 -/
def Good (ts : List Tok) : Prop := ∃ e : Expr, e.Legal 0 ∧ e.toks = ts ∧ Cl (exprDev false e)

theorem ledsDev_append : ∀ (a b : List Led), Cl (ledsDev (a ++ b)) ↔ Cl (ledsDev a) ∧ Cl (ledsDev b)
  | [], b => by simp [ledsDev, Dev.clean_empty]
  | l :: a, b => by simp [ledsDev, Dev.clean_add, ledsDev_append a b, and_assoc]

/-- split a chain at power `p`: the applications binding tighter than `p` that come first stay with
the head, the rest continues the enclosing level -/
theorem chain_split (p : Nat) : ∀ (ls : List Led) (f : Nat), chain 0 f ls →
    ∃ pre post, ls = pre ++ post ∧ chain p f pre ∧ chain 0 (min p (ledsFollow f pre)) post
  | [], f, _ => ⟨[], [], rfl, by simp [chain], by simp [chain]⟩
  | l :: ls, f, h => by
    simp only [chain] at h
    by_cases hp : p < l.lbp
    · obtain ⟨pre, post, h1, h2, h3⟩ := chain_split p ls l.follow h.2.2.2
      refine ⟨l :: pre, post, by simp [h1], ?_, ?_⟩
      · simp only [chain]; exact ⟨hp, h.2.1, h.2.2.1, h2⟩
      · simpa [ledsFollow] using h3
    · refine ⟨[], l :: ls, rfl, by simp [chain], ?_⟩
      simp only [chain, ledsFollow]
      exact ⟨h.1, by omega, h.2.2.1, h.2.2.2⟩

/-- an application of power at most 5 is a binary operator, whose `follow` is `min` of its power and its operand's -/
theorem Led.follow_le5 (l : Led) (h : l.lbp ≤ 5) : l.follow ≤ 5 := by
  cases l <;> simp [Led.lbp] at h <;> simp only [Led.follow] <;> omega

/-- under a follow bound `f ≤ 5` every application has power at most `f`, and `Led.follow_le5` hands the bound on;
`lbp ≤ 9` is the left disjunct of `Item.rhs` -/
theorem chain_low : ∀ (ls : List Led) (f : Nat), f ≤ 5 → chain 0 f ls →
    ∀ l ∈ ls, l.lbp ≤ 9 ∧ 0 < l.lbp ∧ l.Legal
  | [], _, _, _ => by simp
  | l :: ls, f, hf, h => by
    simp only [chain] at h
    intro l' hl'
    rcases List.mem_cons.1 hl' with rfl | hl'
    · exact ⟨by omega, h.1, h.2.2.1⟩
    · exact chain_low ls l.follow (Led.follow_le5 l (by omega)) h.2.2.2 l' hl'

theorem good_attach (it : Item) (hp : 0 < it.led.lbp) {ts : List Tok} (h : Good ts) :
    Good (ts ++ it.led.toks) := by
  obtain ⟨e, h1, h2, h3⟩ := h
  rcases attachExpr it e 0 h1 h3 with ⟨e', g1, g2, _, g3⟩ | h
  · exact ⟨e', g1, by rw [g2, h2], g3⟩
  · omega

theorem good_fold : ∀ (post : List Led) (ts : List Tok), Good ts →
    (∀ l ∈ post, l.lbp ≤ 9 ∧ 0 < l.lbp ∧ l.Legal) → Cl (ledsDev post) → Good (ts ++ ledsToks post)
  | [], ts, h, _, _ => by simpa [ledsToks] using h
  | l :: post, ts, h, hall, hc => by
    have hc := (Dev.clean_add ..).1 hc
    have hl := hall l (List.mem_cons_self ..)
    have := good_attach ⟨l, hl.2.2, hc.1, Or.inl hl.1⟩ hl.2.1 h
    have := good_fold post _ this (fun l' hl' => hall l' (List.mem_cons_of_mem _ hl')) hc.2
    simpa [ledsToks, List.append_assoc] using this

theorem good_not {ts : List Tok} (h : Good ts) : Good (.not :: ts) := by
  obtain ⟨⟨hd, ls⟩, h1, h2, h3⟩ := h
  have h3 := (exprDev_false_clean hd ls).1 h3
  obtain ⟨pre, post, rfl, c1, c2⟩ := chain_split 45 ls hd.follow h1.2.1
  have hls := (ledsDev_append pre post).1 h3.2.1
  refine ⟨.mk (.not (.mk hd pre)) post,
    ⟨⟨h1.1, c1, callDevOk_of_clean _ _ hls.1⟩, c2, callDevOk_of_clean _ _ hls.2⟩, ?_,
    (exprDev_false_clean _ post).2 ⟨(exprDev_false_clean hd pre).2 ⟨h3.1, hls.1, h3.2.2⟩, hls.2, rfl⟩⟩
  rw [← h2]; simp [Expr.toks, Nud.toks, ledsToks_append]

/-- a binary operator: its power, its token and its `Led` constructor -/
structure BinOp where
  p : Nat
  t : Tok
  op : Expr → Led
  hp : 0 < p ∧ p ≤ 5
  lbp : ∀ e, (op e).lbp = p
  legal : ∀ e, (op e).Legal ↔ e.Legal p
  toks : ∀ e, (op e).toks = t :: e.toks
  dev : ∀ e, ledDev (op e) = exprDev false e

def BinOp.or : BinOp := ⟨2, .or, .or, by omega, fun _ => rfl, fun _ => by simp [Led.Legal], fun _ => by simp [Led.toks], fun _ => by simp [ledDev]⟩
def BinOp.and : BinOp := ⟨3, .and, .and, by omega, fun _ => rfl, fun _ => by simp [Led.Legal], fun _ => by simp [Led.toks], fun _ => by simp [ledDev]⟩
def BinOp.pipe : BinOp := ⟨1, .pipe, .pipe, by omega, fun _ => rfl, fun _ => by simp [Led.Legal], fun _ => by simp [Led.toks], fun _ => by simp [ledDev]⟩
def BinOp.cmp (o : Cmp) : BinOp := ⟨5, cmpTok o, .cmp o, by omega, fun _ => rfl, fun _ => by simp [Led.Legal], fun _ => by simp [Led.toks], fun _ => by simp [ledDev]⟩

theorem good_bin (b : BinOp) {l r : List Tok} (hl : Good l) (hr : Good r) : Good (l ++ b.t :: r) := by
  obtain ⟨⟨hd, ls⟩, h1, h2, h3⟩ := hr
  have h3 := (exprDev_false_clean hd ls).1 h3
  obtain ⟨pre, post, rfl, c1, c2⟩ := chain_split b.p ls hd.follow h1.2.1
  have hls := (ledsDev_append pre post).1 h3.2.1
  have hop : (b.op (.mk hd pre)).Legal := (b.legal _).2 ⟨h1.1, c1, callDevOk_of_clean _ _ hls.1⟩
  have hcl : Cl (ledDev (b.op (.mk hd pre))) :=
    b.dev _ ▸ (exprDev_false_clean hd pre).2 ⟨h3.1, hls.1, h3.2.2⟩
  have g1 := good_attach ⟨b.op (.mk hd pre), hop, hcl, Or.inl (by rw [b.lbp]; have := b.hp; omega)⟩
    (by simp only [b.lbp]; exact b.hp.1) hl
  -- `post` continues under the follow bound `min b.p _ ≤ 5`, so each of its applications has `lbp ≤ 9` (`chain_low`)
  -- and is an `Item` through the left disjunct of `Item.rhs`: `good_fold` attaches them again one by one
  have g2 := good_fold post _ g1
    (chain_low post _ (by have := b.hp; omega) c2) hls.2
  rw [← h2]
  simpa [b.toks, Expr.toks, ledsToks_append, List.append_assoc] using g2

/-- a head without applications is legal and clean as an expression -/
theorem head_legal (h : Nud) (k : Nat) (hl : h.Legal) : (Expr.mk h []).Legal k := ⟨hl, trivial, trivial⟩

theorem head_clean (h : Nud) (hc : Cl (nudDev h)) (ht : h.isExpref = false) : Cl (exprDev false (.mk h [])) :=
  (exprDev_false_clean h []).2 ⟨hc, Dev.clean_empty, ht⟩

theorem good_head (h : Nud) (hl : h.Legal) (hc : Cl (nudDev h)) (ht : h.isExpref = false) : Good h.toks :=
  ⟨.mk h [], head_legal h 0 hl, List.append_nil _, head_clean h hc ht⟩

/-- `.` followed by a closed head (identifier, quoted identifier, multi-select hash, function call) -/
def Item.dotHead (h : Nud) (hl : h.Legal) (hd : h.isDotHead = true) (hs : h.isStar = false)
    (hc : Cl (nudDev h)) (ht : h.isExpref = false) : Item where
  led := .dot (.expr (.mk h []))
  legal := ⟨⟨head_legal h 40 hl, hd⟩, hs⟩
  clean := head_clean h hc ht
  rhs := .inr fun k => ⟨.dot (.expr (.mk h [])), ⟨head_legal h k hl, hd⟩, rfl, head_clean h hc ht⟩

theorem Item.dotHead_toks (h : Nud) (hl hd hs hc ht) :
    (Item.dotHead h hl hd hs hc ht).led.toks = .dot :: h.toks :=
  congrArg (Tok.dot :: ·) (List.append_nil _)

/-- `.` followed by a multi-select list -/
def Item.dotMlist (es : List Expr) (hne : es ≠ []) (hl : argsLegal es) (hc : Cl (argsDev false es)) : Item where
  led := .dot (.mlist es)
  legal := ⟨⟨hne, hl⟩, rfl⟩
  clean := hc
  rhs := .inr fun _ => ⟨.dot (.mlist es), ⟨hne, hl⟩, rfl, hc⟩

/-- `.*` -/
def Item.dotStar : Item where
  led := .dotStar .none
  legal := trivial
  clean := Dev.clean_empty
  rhs := .inr fun k => ⟨.dot (.expr (.mk (.star .none) [])), ⟨head_legal (.star .none) k trivial, rfl⟩, rfl,
    head_clean (.star .none) Dev.clean_empty rfl⟩

/-- a bracket specifier: as an application `l` and as a head `h` -/
def Item.bracket (l : Led) (h : Nud) (ll : l.Legal) (lc : Cl (ledDev l)) (hl : h.Legal)
    (hb : h.isBracketHead = true) (hc : Cl (nudDev h)) (ht : h.isMlist = false) (ht' : h.isExpref = false)
    (htoks : h.toks = l.toks) : Item where
  led := l
  legal := ll
  clean := lc
  rhs := .inr fun k => ⟨.bracket (.mk h []), ⟨head_legal h k hl, hb⟩, (List.append_nil _).trans htoks,
    (rhsDev_bracket_clean h []).2 ⟨head_clean h hc ht', ht⟩⟩

/-- `[]` -/
def Item.flatten : Item where
  led := .flattenL .none
  legal := trivial
  clean := Dev.clean_empty
  rhs := .inl (Nat.le_refl 9)

/-- a bracket specifier both extends an expression on its left and is an expression by itself -/
theorem good_bracket (l : Led) (h : Nud) (ll : l.Legal) (lc : Cl (ledDev l)) (hl : h.Legal)
    (hb : h.isBracketHead = true) (hc : Cl (nudDev h)) (ht : h.isMlist = false) (ht' : h.isExpref = false)
    (htoks : h.toks = l.toks) (hp : 0 < l.lbp) :
    (∃ it : Item, 0 < it.led.lbp ∧ it.led.toks = l.toks) ∧ Good l.toks :=
  ⟨⟨Item.bracket l h ll lc hl hb hc ht ht' htoks, hp, rfl⟩, htoks ▸ good_head h hl hc ht'⟩

theorem optNum_toks {a : List Tok} (h : Abnf.OptNum a) : ∃ o, optNumToks o = a := by
  cases h with
  | none => exact ⟨.none, rfl⟩
  | some n => exact ⟨.some n, rfl⟩

theorem slice_toks {s : List Tok} (h : Abnf.SliceExpr s) : ∃ hdr : SliceHdr, hdr.toks = s := by
  cases h with
  | two ha hb =>
    obtain ⟨a, rfl⟩ := optNum_toks ha
    obtain ⟨b, rfl⟩ := optNum_toks hb
    exact ⟨⟨a, b, .none⟩, by simp [SliceHdr.toks]⟩
  | three ha hb hc =>
    obtain ⟨a, rfl⟩ := optNum_toks ha
    obtain ⟨b, rfl⟩ := optNum_toks hb
    obtain ⟨c, rfl⟩ := optNum_toks hc
    exact ⟨⟨a, b, .some c⟩, by simp [SliceHdr.toks]⟩

theorem ident_key {k : List Tok} (h : Abnf.Ident k) : ∃ q s, k = [keyTok q s] := by
  cases h with
  | unquoted s => exact ⟨false, s, by simp [keyTok]⟩
  | quoted s => exact ⟨true, s, by simp [keyTok]⟩

end JmesVerif
