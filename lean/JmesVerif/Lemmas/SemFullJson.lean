import JmesVerif.Spec.SemFull
import JmesVerif.Lemmas.SemJson
import JmesVerif.Lemmas.InterpJson
import JmesVerif.Lemmas.SemFullExt
import JmesVerif.Lemmas.SemFullBase
/-
The full semantics maps JSON values to JSON values: no expression reference ever becomes data
(for expressions covered by `SemFull.exprOk`).
-/
namespace JmesVerif
open Spec

/-- evaluated arguments: values are JSON, functions map JSON to JSON -/
def ArgsJson (as : List SemFull.Arg) : Prop :=
  ∀ a ∈ as, match a with
    | .val v => v.isJson = true
    | .fn f => ∀ x : Val, x.isJson = true → ∀ y, f x = some y → y.isJson = true

theorem allVals_json : ∀ {as : List SemFull.Arg} {vs : List Val}, ArgsJson as →
    SemFull.allVals as = some vs → ∀ v ∈ vs, v.isJson = true
  | [], vs, _, h => by simp [SemFull.allVals] at h; subst h; simp
  | .val v :: r, vs, ha, h => by
    simp only [SemFull.allVals] at h
    cases hr : SemFull.allVals r with
    | none => simp [hr] at h
    | some ws =>
      simp only [hr, Option.map_some, Option.some.injEq] at h
      subst h
      intro w hw
      rcases List.mem_cons.mp hw with rfl | hw
      · exact ha (.val w) (by simp)
      · exact allVals_json (fun a h' => ha a (by simp [h'])) hr w hw
  | .fn _ :: _, vs, _, h => by simp [SemFull.allVals] at h

theorem pureFn_json {b : Builtin} {vs : List Val} {v : Val} (hvs : ∀ a ∈ vs, a.isJson = true)
    (h : SemFull.pureFn b vs = some v) : v.isJson = true := by
  unfold SemFull.pureFn at h
  split at h
  · simp at h
  · split at h
    · rename_i w hw
      simp at h; subst h
      exact pure_json b vs _ hvs hw
    · simp at h

theorem pure_apply_json {b : Builtin} {as : List SemFull.Arg} {v : Val} (ha : ArgsJson as)
    (h : (SemFull.allVals as).bind (SemFull.pureFn b) = some v) : v.isJson = true := by
  cases hv : SemFull.allVals as with
  | none => simp [hv] at h
  | some vs =>
    simp only [hv, Option.bind_some] at h
    exact pureFn_json (allVals_json ha hv) h

theorem byShape_json {as : List SemFull.Arg} {p} (ha : ArgsJson as) (h : SemFull.byShape as = some p) :
    (∀ x : Val, x.isJson = true → ∀ y, p.1 x = some y → y.isJson = true) ∧ ∀ x ∈ p.2, x.isJson = true := by
  rw [byShape_eq h] at ha
  exact ⟨ha (.fn p.1) (by simp), arr_json.mp (ha (.val (.arr p.2)) (by simp))⟩

theorem pickExtremeF_mem (isMax : Bool) (xs ks : List Val) :
    SemFull.pickExtreme isMax (xs.zip ks) = .null ∨ SemFull.pickExtreme isMax (xs.zip ks) ∈ xs := by
  cases xs with
  | nil => left; simp [SemFull.pickExtreme]
  | cons x rest =>
    cases ks with
    | nil => left; simp [SemFull.pickExtreme]
    | cons k0 ks =>
      right
      simp only [List.zip_cons_cons, SemFull.pickExtreme]
      apply pick_mem
      intro a b
      by_cases hc : (if isMax then Val.cmp b.2 a.2 == .gt else Val.cmp b.2 a.2 == .lt) = true
      · right; simp only [hc, if_true]
      · left; simp only [hc]; rfl

theorem sortBy_json {f : Val → Option Val} {xs : List Val} {v : Val} (hx : ∀ x ∈ xs, x.isJson = true)
    (h : SemFull.sortBy f xs = some v) : v.isJson = true := by
  unfold SemFull.sortBy at h
  split at h
  · simp at h
  · rename_i ks _
    split at h
    · simp at h; subst h
      refine arr_json.mpr fun y hy => hx y ?_
      exact sortBy_mem xs ks y hy
    · simp at h

theorem extremeBy_json {isMax : Bool} {f : Val → Option Val} {xs : List Val} {v : Val}
    (hx : ∀ x ∈ xs, x.isJson = true) (h : SemFull.extremeBy isMax f xs = some v) : v.isJson = true := by
  unfold SemFull.extremeBy at h
  split at h
  · simp at h
  · rename_i ks _
    split at h
    · simp at h; subst h
      rcases pickExtremeF_mem isMax xs ks with h | h
      · rw [h]; rfl
      · exact hx _ h
    · simp at h

theorem apply_json {b : Builtin} {as : List SemFull.Arg} {v : Val} (ha : ArgsJson as)
    (h : SemFull.apply b as = some v) : v.isJson = true := by
  cases b
  case map =>
    simp only [SemFull.apply] at h
    cases hs : SemFull.mapShape as with
    | none => simp [hs] at h
    | some p =>
      simp only [hs, Option.bind_some] at h
      rw [mapShape_eq hs] at ha
      have hf := ha (.fn p.1) (by simp)
      have hx := arr_json.mp (ha (.val (.arr p.2)) (by simp))
      cases hm : Sem.optMapM p.1 p.2 with
      | none => simp [hm] at h
      | some ys =>
        simp only [hm, Option.map_some, Option.some.injEq] at h
        subst h
        refine arr_json.mpr fun y hy => ?_
        obtain ⟨x, hx', hfx⟩ := optMapM_mem hm y hy
        exact hf x (hx x hx') y hfx
  case sortBy =>
    simp only [SemFull.apply] at h
    cases hs : SemFull.byShape as with
    | none => simp [hs] at h
    | some p =>
      simp only [hs, Option.bind_some] at h
      exact sortBy_json (byShape_json ha hs).2 h
  case maxBy =>
    simp only [SemFull.apply] at h
    cases hs : SemFull.byShape as with
    | none => simp [hs] at h
    | some p =>
      simp only [hs, Option.bind_some] at h
      exact extremeBy_json (byShape_json ha hs).2 h
  case minBy =>
    simp only [SemFull.apply] at h
    cases hs : SemFull.byShape as with
    | none => simp [hs] at h
    | some p =>
      simp only [hs, Option.bind_some] at h
      exact extremeBy_json (byShape_json ha hs).2 h
  all_goals exact pure_apply_json ha (by simpa only [SemFull.apply] using h)

/-- the step of `args_jsonF`, with everything about the head, its leds and the remaining arguments as
hypotheses (so that the overlapping patterns of `SemFull.args` / `SemFull.argsOk` are analysed outside
the structural recursion) -/
theorem args_cons_json (h : Nud) (ls : List Led) (rest : List Expr)
    (hnud : SemFull.nudOk h = true → ∀ d : Val, d.isJson = true →
      ∀ v, SemFull.nud d h = some v → v.isJson = true)
    (hfn : ∀ e, h = .expref e → SemFull.exprOk e = true → ∀ x : Val, x.isJson = true →
      ∀ y, SemFull.expr x e = some y → y.isJson = true)
    (hleds : SemFull.ledsOk ls = true → ∀ d lv : Val, d.isJson = true →
      lv.isJson = true → ∀ v, SemFull.leds d lv ls = some v → v.isJson = true)
    (hrest : ∀ (name : String) (i : Nat), SemFull.argsOk name i rest = true →
      ∀ d : Val, d.isJson = true → ∀ as, SemFull.args d rest = some as → ArgsJson as)
    (name : String) (i : Nat) (hok : SemFull.argsOk name i (.mk h ls :: rest) = true)
    (d : Val) (hd : d.isJson = true) (as : List SemFull.Arg)
    (has : SemFull.args d (.mk h ls :: rest) = some as) : ArgsJson as := by
  by_cases hex : ∃ e, Expr.mk h ls = .mk (.expref e) []
  · obtain ⟨e, he⟩ := hex
    injection he with h1 h2
    subst h1; subst h2
    simp only [SemFull.argsOk, Bool.and_eq_true] at hok
    simp only [SemFull.args] at has
    cases hr : SemFull.args d rest with
    | none => simp [hr] at has
    | some rs =>
      simp only [hr, Option.map_some, Option.some.injEq] at has
      subst has
      intro a ha
      rcases List.mem_cons.mp ha with rfl | ha
      · exact hfn e rfl hok.1.2
      · exact hrest name (i + 1) hok.2 d hd rs hr a ha
  · have hne : ∀ e', Expr.mk h ls = .mk (.expref e') [] → False := fun e' he => hex ⟨e', he⟩
    rw [SemFull.argsOk.eq_3 _ _ _ _ hne] at hok
    rw [SemFull.args.eq_3 _ _ _ hne] at has
    simp only [Bool.and_eq_true, SemFull.exprOk] at hok
    simp only [SemFull.expr] at has
    cases hn : SemFull.nud d h with
    | none => simp [hn] at has
    | some w =>
      simp only [hn] at has
      cases hl : SemFull.leds d w ls with
      | none => simp [hl] at has
      | some u =>
        simp only [hl] at has
        cases hr : SemFull.args d rest with
        | none => simp [hr] at has
        | some rs =>
          simp only [hr, Option.map_some, Option.some.injEq] at has
          subst has
          intro a ha
          rcases List.mem_cons.mp ha with rfl | ha
          · exact hleds hok.1.2 d w hd (hnud hok.1.1 d hd w hn) u hl
          · exact hrest name (i + 1) hok.2 d hd rs hr a ha

mutual
theorem nud_jsonF : ∀ h : Nud, SemFull.nudOk h = true → ∀ d : Val, d.isJson = true →
    ∀ v, SemFull.nud d h = some v → v.isJson = true
  | .at, _, d, hd, v, hv => by cases hv; exact hd
  | .field s, _, d, hd, v, hv => by cases hv; exact field_json s hd
  | .qfield s, _, d, hd, v, hv => by cases hv; exact field_json s hd
  | .call name as, hc, d, hd, v, hv => by
    have ih := args_jsonF as name 0
    simp only [SemFull.nudOk] at hc
    simp only [SemFull.nud] at hv
    cases ha : SemFull.args d as with
    | none => simp [ha, SemFull.call] at hv
    | some avs =>
      simp only [ha, SemFull.call] at hv
      cases hb : SemFull.builtinOf name with
      | none => simp [hb] at hv
      | some b =>
        simp only [hb] at hv
        exact apply_json (ih hc d hd avs ha) hv
  | .lit w, hc, d, hd, v, hv => by cases hv; exact hc
  | .idx n, _, d, hd, v, hv => by cases hv; exact index_json n hd
  | .paren e, hc, d, hd, v, hv => expr_jsonF e hc d hd v hv
  | .not e, hc, d, hd, v, hv => map_json (fun _ => rfl) v hv
  | .mlist es, hc, d, hd, v, hv => mlist_json (exprs_jsonF es hc d hd) v hv
  | .mhash kvs, hc, d, hd, v, hv => mhash_json (kvs_jsonF kvs hc d hd [] (by simp)) v hv
  | .wildIdx r, hc, d, hd, v, hv =>
    arrProj_json (sel := id) (fun xs h => arr_json.mp (h ▸ hd)) (rhs_jsonF r hc) v hv
  | .star r, hc, d, hd, v, hv => objProj_json hd (rhs_jsonF r hc) v hv
  | .flatten r, hc, d, hd, v, hv =>
    arrProj_json (fun xs h => flatten1_json (h ▸ hd)) (rhs_jsonF r hc) v hv
  | .slice h r, hc, d, hd, v, hv => sliceProj_json hd (rhs_jsonF r hc) v hv
  | .filter p r, hc, d, hd, v, hv => by
    simp only [SemFull.nudOk, Bool.and_eq_true] at hc
    exact arrProj_json (sel := id) (fun xs h => arr_json.mp (h ▸ hd))
      (filt_json (rhs_jsonF r hc.2)) v hv
  | .expref _, hc, _, _, _, _ => by simp [SemFull.nudOk] at hc
theorem led_jsonF : ∀ l : Led, SemFull.ledOk l = true → ∀ d lv : Val, d.isJson = true → lv.isJson = true →
    ∀ v, SemFull.led d lv l = some v → v.isJson = true
  | .dot dr, hc, d, lv, hd, hl, v, hv => dot_jsonF dr hc lv hl v hv
  | .index n, _, d, lv, hd, hl, v, hv => by cases hv; exact index_json n hl
  | .pipe e, hc, d, lv, hd, hl, v, hv => expr_jsonF e hc lv hl v hv
  | .or e, hc, d, lv, hd, hl, v, hv => orand_json hl (expr_jsonF e hc d hd) v hv
  | .and e, hc, d, lv, hd, hl, v, hv => orand_json hl (expr_jsonF e hc d hd) v hv
  | .cmp o e, hc, d, lv, hd, hl, v, hv => map_json (fun _ => cmpVal_json _ _ _) v hv
  | .wildIdxL r, hc, d, lv, hd, hl, v, hv =>
    arrProj_json (sel := id) (fun xs h => arr_json.mp (h ▸ hl)) (rhs_jsonF r hc) v hv
  | .dotStar r, hc, d, lv, hd, hl, v, hv => objProj_json hl (rhs_jsonF r hc) v hv
  | .flattenL r, hc, d, lv, hd, hl, v, hv =>
    arrProj_json (fun xs h => flatten1_json (h ▸ hl)) (rhs_jsonF r hc) v hv
  | .sliceL h r, hc, d, lv, hd, hl, v, hv => sliceProj_json hl (rhs_jsonF r hc) v hv
  | .filterL p r, hc, d, lv, hd, hl, v, hv => by
    simp only [SemFull.ledOk, Bool.and_eq_true] at hc
    exact arrProj_json (sel := id) (fun xs h => arr_json.mp (h ▸ hl))
      (filt_json (rhs_jsonF r hc.2)) v hv
  | .callDev _, hc, _, _, _, _, _, _ => by simp [SemFull.ledOk] at hc
theorem rhs_jsonF : ∀ r : Rhs, SemFull.rhsOk r = true → ∀ el : Val, el.isJson = true →
    ∀ v, SemFull.rhs el r = some v → v.isJson = true
  | .none, _, el, hel, v, hv => by cases hv; exact hel
  | .dot dr, hc, el, hel, v, hv => dot_jsonF dr hc el hel v hv
  | .bracket e, hc, el, hel, v, hv => expr_jsonF e hc el hel v hv
theorem dot_jsonF : ∀ dr : DotRhs, SemFull.dotOk dr = true → ∀ el : Val, el.isJson = true →
    ∀ v, SemFull.dot el dr = some v → v.isJson = true
  | .mlist es, hc, el, hel, v, hv => mlist_json (exprs_jsonF es hc el hel) v hv
  | .expr e, hc, el, hel, v, hv => expr_jsonF e hc el hel v hv
theorem expr_jsonF : ∀ e : Expr, SemFull.exprOk e = true → ∀ d : Val, d.isJson = true →
    ∀ v, SemFull.expr d e = some v → v.isJson = true
  | .mk h ls, hc, d, hd, v, hv => by
    simp only [SemFull.exprOk, Bool.and_eq_true] at hc
    exact seq_json (nud_jsonF h hc.1 d hd) (fun w hw => leds_jsonF ls hc.2 d w hd hw) v hv
theorem leds_jsonF : ∀ ls : List Led, SemFull.ledsOk ls = true → ∀ d lv : Val, d.isJson = true →
    lv.isJson = true → ∀ v, SemFull.leds d lv ls = some v → v.isJson = true
  | [], _, d, lv, hd, hl, v, hv => by cases hv; exact hl
  | l :: ls, hc, d, lv, hd, hl, v, hv => by
    simp only [SemFull.ledsOk, Bool.and_eq_true] at hc
    exact seq_json (led_jsonF l hc.1 d lv hd hl) (fun w hw => leds_jsonF ls hc.2 d w hd hw) v hv
theorem exprs_jsonF : ∀ es : List Expr, SemFull.exprsOk es = true → ∀ d : Val, d.isJson = true →
    ∀ vs, SemFull.exprs d es = some vs → ∀ v ∈ vs, v.isJson = true
  | [], _, d, hd, vs, hv => by simp [SemFull.exprs] at hv; subst hv; simp
  | e :: es, hc, d, hd, vs, hv => by
    simp only [SemFull.exprs] at hv; simp only [SemFull.exprsOk, Bool.and_eq_true] at hc
    cases he : SemFull.expr d e with
    | none => simp [he] at hv
    | some w =>
      simp only [he] at hv
      cases hes : SemFull.exprs d es with
      | none => simp [hes] at hv
      | some ws =>
        simp only [hes, Option.map_some, Option.some.injEq] at hv
        subst hv
        intro v hv
        rcases List.mem_cons.mp hv with rfl | hv
        · exact expr_jsonF e hc.1 d hd _ he
        · exact exprs_jsonF es hc.2 d hd ws hes v hv
theorem kvs_jsonF : ∀ kvs : List (Bool × String × Expr), SemFull.kvsOk kvs = true → ∀ d : Val,
    d.isJson = true → ∀ acc : List (String × Val), (∀ p ∈ acc, p.2.isJson = true) →
    ∀ m, SemFull.kvs' d kvs acc = some m → ∀ p ∈ m, p.2.isJson = true
  | [], _, d, hd, acc, hacc, m, hm => by simp [SemFull.kvs'] at hm; subst hm; exact hacc
  | (_, k, e) :: r, hc, d, hd, acc, hacc, m, hm => by
    simp only [SemFull.kvs'] at hm; simp only [SemFull.kvsOk, Bool.and_eq_true] at hc
    cases he : SemFull.expr d e with
    | none => simp [he] at hm
    | some w =>
      simp only [he] at hm
      exact kvs_jsonF r hc.2 d hd _
        (forall_mem_insertKV (R := fun v : Val => v.isJson = true) (expr_jsonF e hc.1 d hd w he) hacc) m hm
theorem nud_fn_jsonF : ∀ h : Nud, ∀ e, h = .expref e → SemFull.exprOk e = true → ∀ x : Val,
    x.isJson = true → ∀ y, SemFull.expr x e = some y → y.isJson = true
  | _, e, rfl, hok => expr_jsonF e hok
theorem args_jsonF : ∀ (es : List Expr) (name : String) (i : Nat), SemFull.argsOk name i es = true →
    ∀ d : Val, d.isJson = true → ∀ as, SemFull.args d es = some as → ArgsJson as
  | [], _, _, _, d, _, as, has => by
    simp [SemFull.args] at has; subst has; intro a ha; simp at ha
  | (.mk h ls) :: rest, name, i, hok, d, hd, as, has =>
    args_cons_json h ls rest (nud_jsonF h) (nud_fn_jsonF h) (leds_jsonF ls) (args_jsonF rest)
      name i hok d hd as has
end

#print axioms expr_jsonF
#print axioms args_jsonF

/-! ### the core language: there `Sem` is `SemFull` (`Lemmas/SemFullExt.lean`) -/
theorem nud_json (h : Nud) (hc : Sem.nudCore h = true) (d : Val) (hd : d.isJson = true) (v : Val)
    (hv : Sem.nud d h = some v) : v.isJson = true :=
  nud_jsonF h (nudOk_of_core h hc) d hd v ((nud_eq_Sem h hc d).trans hv)
theorem led_json (l : Led) (hc : Sem.ledCore l = true) (d lv : Val) (hd : d.isJson = true)
    (hl : lv.isJson = true) (v : Val) (hv : Sem.led d lv l = some v) : v.isJson = true :=
  led_jsonF l (ledOk_of_core l hc) d lv hd hl v ((led_eq_Sem l hc d lv).trans hv)
theorem rhs_json : ∀ r : Rhs, Sem.rhsCore r = true → ∀ el : Val, el.isJson = true →
    ∀ v, Sem.rhs el r = some v → v.isJson = true :=
  fun r hc el hel v hv => rhs_jsonF r (rhsOk_of_core r hc) el hel v ((rhs_eq_Sem r hc el).trans hv)
theorem dot_json : ∀ dr : DotRhs, Sem.dotCore dr = true → ∀ el : Val, el.isJson = true →
    ∀ v, Sem.dot el dr = some v → v.isJson = true :=
  fun dr hc el hel v hv => dot_jsonF dr (dotOk_of_core dr hc) el hel v ((dot_eq_Sem dr hc el).trans hv)
theorem expr_json (e : Expr) (hc : Sem.exprCore e = true) (d : Val) (hd : d.isJson = true) (v : Val)
    (hv : Sem.expr d e = some v) : v.isJson = true :=
  expr_jsonF e (exprOk_of_core e hc) d hd v ((SemFull_eq_Sem e hc d).trans hv)
theorem leds_json : ∀ ls : List Led, Sem.ledsCore ls = true → ∀ d lv : Val, d.isJson = true →
    lv.isJson = true → ∀ v, Sem.leds d lv ls = some v → v.isJson = true :=
  fun ls hc d lv hd hl v hv =>
    leds_jsonF ls (ledsOk_of_core ls hc) d lv hd hl v ((leds_eq_Sem ls hc d lv).trans hv)
theorem exprs_json : ∀ es : List Expr, Sem.exprsCore es = true → ∀ d : Val, d.isJson = true →
    ∀ vs, Sem.exprs d es = some vs → ∀ v ∈ vs, v.isJson = true :=
  fun es hc d hd vs hv => exprs_jsonF es (exprsOk_of_core es hc) d hd vs ((exprs_eq_Sem es hc d).trans hv)
theorem kvs_json : ∀ kvs : List (Bool × String × Expr), Sem.kvsCore kvs = true → ∀ d : Val,
    d.isJson = true → ∀ acc : List (String × Val), (∀ p ∈ acc, p.2.isJson = true) →
    ∀ m, Sem.kvs' d kvs acc = some m → ∀ p ∈ m, p.2.isJson = true :=
  fun kvs hc d hd acc hacc m hm =>
    kvs_jsonF kvs (kvsOk_of_core kvs hc) d hd acc hacc m ((kvs_eq_Sem kvs hc d acc).trans hm)

end JmesVerif
