import JmesVerif.Lemmas.ParserBasic
/-!
What the soundness (T1) and completeness (T2) inductions share beneath the parser functions: the stop
condition `Stop`, the first token of a tree (`Nud.first`, `Expr.first`), the `snoc` forms of `chain`,
`ledsFollow` and `ledsAst` for the accumulator of the led loop, `closeTok`, and the invariant of the
index/slice header loop (`idxSlot`, `idxLoop_inv`).
-/
namespace JmesVerif
open Parser

/-- the parser stopped in front of a token binding no tighter than `k` -/
def Stop (k : Nat) (ts : List PT) : Prop := (peekT ts).lbp ≤ k

theorem lbp_le_INF (t : Tok) : t.lbp ≤ INF := by
  cases t <;> simp [Tok.lbp, INF]

theorem stop_INF (ts : List PT) : Stop INF ts := lbp_le_INF _

@[simp] theorem peekT_cons (p : Nat) (t : Tok) (r : List PT) : peekT ((p, t) :: r) = t := rfl
@[simp] theorem peekT_nil : peekT [] = .eof := rfl

theorem yield_cons {p : Nat} {t : Tok} {r : List PT} {x : List Tok} (h : tk r = x) :
    tk ((p, t) :: r) = t :: x := congrArg _ h

theorem ledsToks_snoc (a : List Led) (l : Led) : ledsToks (a ++ [l]) = ledsToks a ++ l.toks := by
  simp [ledsToks_append, ledsToks]

theorem chain_snoc (rbp f : Nat) (acc : List Led) (l : Led) :
    chain rbp f (acc ++ [l]) ↔
      (chain rbp f acc ∧ rbp < l.lbp ∧ l.lbp ≤ ledsFollow f acc ∧ l.Legal) := by
  induction acc generalizing f with
  | nil => simp [chain, ledsFollow]
  | cons a as ih => simp [chain, ledsFollow, ih, and_assoc]

theorem follow_snoc (f : Nat) (acc : List Led) (l : Led) :
    ledsFollow f (acc ++ [l]) = l.follow := by
  induction acc generalizing f with
  | nil => simp [ledsFollow]
  | cons a as ih => simp [ledsFollow, ih]

theorem ledsAst_snoc (x : Ast) (acc : List Led) (l : Led) :
    ledsAst x (acc ++ [l]) = l.ast (ledsAst x acc) := by
  induction acc generalizing x with
  | nil => simp [ledsAst]
  | cons a as ih => simp [ledsAst, ih]

theorem callDevOk_snoc (h : Nud) (acc : List Led) (l : Led)
    (hc : callDevOk h acc) (hl : l.isCallDev = false) : callDevOk h (acc ++ [l]) := by
  cases acc with
  | nil => simp [callDevOk, hl]
  | cons a as =>
    simp only [callDevOk, List.cons_append] at hc ⊢
    refine ⟨hc.1, ?_⟩
    intro l' hl'
    rcases List.mem_append.1 hl' with h1 | h1
    · exact hc.2 _ h1
    · simp at h1; subst h1; exact hl

theorem Led.ast_ne_field (x : Ast) (l : Led) (o : Nat) (s : String) : l.ast x ≠ .field o s := by
  cases l <;> simp [Led.ast]
  split <;> simp_all

theorem ledsAst_field (x : Ast) (acc : List Led) (o : Nat) (s : String)
    (h : ledsAst x acc = .field o s) : acc = [] ∧ x = .field o s := by
  rcases List.eq_nil_or_concat acc with rfl | ⟨init, l, rfl⟩
  · simpa [ledsAst] using h
  · rw [List.concat_eq_append, ledsAst_snoc] at h
    exact absurd h (Led.ast_ne_field _ _ _ _)

theorem Expr.isField_of_ast_aux (n : Nat) :
    ∀ e : Expr, sizeOf e < n → ∀ (o : Nat) (s : String), e.ast = .field o s → e.isField = true := by
  induction n with
  | zero => intro e h; omega
  | succ n ih =>
    intro e hn o s h
    cases e with
    | mk hd ls =>
      simp only [Expr.ast] at h
      obtain ⟨hls, h2⟩ := ledsAst_field _ _ _ _ h
      subst hls
      cases hd with
      | paren e' =>
        simp only [Nud.ast] at h2
        simp only [Expr.isField]
        refine ih e' ?_ o s h2
        simp at hn; omega
      | field _ => simp [Expr.isField]
      | qfield _ => simp [Expr.isField]
      | _ => simp [Nud.ast] at h2

theorem Expr.isField_of_ast (e : Expr) (o : Nat) (s : String) (h : e.ast = .field o s) :
    e.isField = true :=
  Expr.isField_of_ast_aux (sizeOf e + 1) e (Nat.lt_succ_self _) o s h

/-- what a head whose tree is a bare field looks like -/
theorem Nud.ast_field (h : Nud) (o : Nat) (s : String) (hh : h.ast = .field o s) :
    h = .field s ∨ h = .qfield s ∨ ∃ e, h = .paren e ∧ e.isField = true := by
  cases h <;> simp [Nud.ast] at hh
  · left; simp [hh]
  · right; left; simp [hh]
  · right; right; exact ⟨_, rfl, Expr.isField_of_ast _ _ _ hh⟩

def Nud.first : Nud → Tok
  | .at => .at
  | .field s => .identifier s
  | .qfield s => .quotedIdentifier s
  | .call s _ => .identifier s
  | .lit v => .literal v
  | .star _ => .star
  | .idx _ => .lbracket
  | .slice _ _ => .lbracket
  | .wildIdx _ => .lbracket
  | .mlist _ => .lbracket
  | .flatten _ => .flatten
  | .mhash _ => .lbrace
  | .not _ => .not
  | .filter _ _ => .filter
  | .paren _ => .lparen
  | .expref _ => .ampersand

theorem Nud.toks_first_s (n : Nud) : ∃ r, n.toks = n.first :: r := by
  cases n <;> exact ⟨_, rfl⟩

def Expr.first : Expr → Tok
  | .mk h _ => h.first

theorem Expr.toks_first_s (e : Expr) : ∃ r, e.toks = e.first :: r := by
  cases e with
  | mk h ls =>
    obtain ⟨r, hr⟩ := h.toks_first_s
    exact ⟨r ++ ledsToks ls, by simp [Expr.toks, Expr.first, hr]⟩

theorem Expr.first_of_yield (e : Expr) (ts ts' : List PT) (h : tk ts = e.toks ++ tk ts') :
    peekT ts = e.first := by
  obtain ⟨r, hr⟩ := e.toks_first_s
  rw [peekT_eq_peekL, h, hr]; rfl

theorem Expr.headIsBracket_of_first (e : Expr) (h : e.first = .lbracket ∨ e.first = .filter) :
    e.headIsBracket = true := by
  cases e with
  | mk hd ls => cases hd <;> simp_all [Expr.first, Nud.first, Expr.headIsBracket, Nud.isBracketHead]

theorem Expr.headIsDot_of_first (e : Expr)
    (h : (∃ s, e.first = .identifier s) ∨ (∃ s, e.first = .quotedIdentifier s) ∨ e.first = .star ∨
      e.first = .lbrace ∨ e.first = .ampersand) :
    e.headIsDot = true := by
  cases e with
  | mk hd ls => cases hd <;> simp_all [Expr.first, Nud.first, Expr.headIsDot, Nud.isDotHead]

theorem DotRhs.first_of_startsWithStar (d : DotRhs) (ts ts' : List PT)
    (h : tk ts = d.toks ++ tk ts') (hs : d.startsWithStar = true) : peekT ts = .star := by
  cases d with
  | mlist es => simp [DotRhs.startsWithStar] at hs
  | expr e =>
    cases e with
    | mk hd ls =>
      cases hd <;> simp [DotRhs.startsWithStar, Nud.isStar] at hs
      rw [peekT_eq_peekL, h]; simp [DotRhs.toks, Expr.toks, Nud.toks, peekL]

/-- the first token of an application: it carries the binding power, is `(` only for a call, and
is never `]` -/
theorem Led.toks_first (l : Led) : ∃ t rest, l.toks = t :: rest ∧ t.lbp = l.lbp ∧
    (t = .lparen → l.isCallDev = true) ∧ t ≠ .rbracket := by
  cases l with
  | cmp o e => cases o <;> exact ⟨_, _, rfl, rfl, nofun, nofun⟩
  | callDev args => exact ⟨_, _, rfl, rfl, fun _ => rfl, nofun⟩
  | _ => exact ⟨_, _, rfl, rfl, nofun, nofun⟩

theorem peek_led (l : Led) (r : List Tok) : (peekL (l.toks ++ r)).lbp = l.lbp := by
  obtain ⟨t, rest, h1, h2, _⟩ := l.toks_first
  rw [h1]; exact h2

theorem Led.lbp_of_yield (l : Led) (ts ts' : List PT) (h : tk ts = l.toks ++ tk ts') :
    (peekT ts).lbp = l.lbp := by
  rw [peekT_eq_peekL, h, peek_led]

def closeTok (paren : Bool) : Tok := if paren then .rparen else .rbracket

theorem isClosing_eq (paren : Bool) (t : Tok) (h : isClosing paren t = true) : t = closeTok paren := by
  cases t <;> cases paren <;> simp_all [isClosing, closeTok]

theorem argsLegal_append (a b : List Expr) : argsLegal (a ++ b) ↔ argsLegal a ∧ argsLegal b := by
  induction a with
  | nil => simp [argsLegal]
  | cons x xs ih => simp [argsLegal, ih, and_assoc]

theorem stripList_append (a b : List Ast) : stripList (a ++ b) = stripList a ++ stripList b := by
  induction a with
  | nil => simp [stripList]
  | cons x xs ih => simp [stripList, ih]

theorem stripKVs_append (a b : List (String × Ast)) : stripKVs (a ++ b) = stripKVs a ++ stripKVs b := by
  induction a with
  | nil => simp [stripKVs]
  | cons x xs ih => obtain ⟨k, v⟩ := x; simp [stripKVs, ih]

theorem length_stripList (as : List Ast) : (stripList as).length = as.length := by
  induction as with
  | nil => rfl
  | cons a as ih => simp [stripList, ih]

theorem length_exprsAst (es : List Expr) : (exprsAst es).length = es.length := by
  induction es with
  | nil => rfl
  | cons e es ih => simp [exprsAst, ih]

theorem isStarOnly_eq (es : List Expr) (h : isStarOnly es = true) : es = [.mk (.star .none) []] := by
  unfold isStarOnly at h
  split at h
  · rfl
  · simp at h

theorem peekT_inv (r : List PT) (t : Tok) (h : peekT r = t) (ht : t ≠ .eof) :
    ∃ p r', r = (p, t) :: r' := by
  cases r with
  | nil => simp at h; exact absurd h.symm ht
  | cons x r' =>
    obtain ⟨p, t'⟩ := x
    simp at h
    exact ⟨p, r', by simp [h]⟩

theorem cmpOfTok_eq (t : Tok) (c : Cmp) (h : cmpOfTok t = some c) : t = cmpTok c := by
  cases t <;> simp [cmpOfTok] at h <;> subst h <;> rfl

def idxConsumed (a b c : Option Int) (k : Nat) : List Tok :=
  if k = 0 then optNumToks a
  else if k = 1 then optNumToks a ++ .colon :: optNumToks b
  else optNumToks a ++ .colon :: (optNumToks b ++ .colon :: optNumToks c)

def Parser.IdxHdr.toks : IdxHdr → List Tok
  | .idx n => [.number n]
  | .slice h => h.toks

def idxSlot (a b c : Option Int) (k : Nat) : Option Int :=
  if k = 0 then a else if k = 1 then b else c

theorem idxLoop_inv (fuel : Nat) : ∀ ts off a b c k x ts' off',
    idxLoop fuel ts off a b c k = .ok (x, ts', off') → k ≤ 2 →
    (k = 0 → b = none ∧ c = none) → (k = 1 → c = none) →
    (idxSlot a b c k ≠ none → ∀ v, peekT ts ≠ .number v) →
    idxConsumed a b c k ++ tk ts = x.toks ++ .rbracket :: tk ts' := by
  induction fuel with
  | zero => intro ts off a b c k x ts' off' h; cases h
  | succ n ih =>
    intro ts off a b c k x ts' off' h hk h0 h1 hs
    obtain _ | ⟨⟨p, t⟩, r⟩ := ts
    · cases h
    obtain ⟨v, rfl⟩ | rfl | rfl | ht := idxLoop_other t
    · have hsl : idxSlot a b c k = none := Classical.byContradiction fun hh => hs hh v rfl
      have hk3 : k = 0 ∨ k = 1 ∨ k = 2 := by omega
      rw [idxLoop_number] at h
      split at h
      case h_3 => cases h
      all_goals
        rename_i hp
        have hnum : ∀ w, peekT r ≠ .number w := fun w hw => by rw [hw] at hp; cases hp
        rcases hk3 with rfl | rfl | rfl
        all_goals
          simp [idxSlot] at hsl; subst hsl
          have := ih _ _ _ _ _ _ _ _ _ h (by omega) (by simp [h0]) (by simp [h1]) (fun _ => hnum)
          simpa [idxConsumed, optNumToks] using this
    · rw [idxLoop_colon] at h
      split at h
      · cases h
      have hk3 : k = 0 ∨ k = 1 := by omega
      have hstep : ∀ x ts' off', idxLoop n r p a b c (k + 1) = .ok (x, ts', off') →
          idxConsumed a b c k ++ .colon :: tk r = x.toks ++ .rbracket :: tk ts' := by
        intro x ts' off' h
        rcases hk3 with rfl | rfl
        · obtain ⟨rfl, rfl⟩ := h0 rfl
          have := ih _ _ _ _ _ _ _ _ _ h (by omega) (by simp) (by simp) (by simp [idxSlot])
          simpa [idxConsumed, optNumToks] using this
        · obtain rfl := h1 rfl
          have := ih _ _ _ _ _ _ _ _ _ h (by omega) (by simp) (by simp) (by simp [idxSlot])
          simpa [idxConsumed, optNumToks] using this
      split at h
      case h_4 => cases h
      all_goals exact hstep _ _ _ h
    · rw [idxLoop_rbracket] at h
      have hk3 : k = 0 ∨ k = 1 ∨ k = 2 := by omega
      rcases hk3 with rfl | rfl | rfl
      · rw [if_pos rfl] at h
        split at h
        · cases h; simp [idxConsumed, optNumToks, IdxHdr.toks]
        · cases h
      all_goals
        cases h
        simp [idxConsumed, IdxHdr.toks, SliceHdr.toks]
    · rw [ht] at h; cases h

theorem idxLoop_sound (ts : List PT) (off : Nat) (x : IdxHdr) (ts' : List PT) (off' : Nat)
    (h : idxLoop 8 ts off none none none 0 = .ok (x, ts', off')) :
    tk ts = x.toks ++ .rbracket :: tk ts' := by
  have := idxLoop_inv 8 _ _ _ _ _ _ _ _ _ h (by omega) (by simp) (by simp) (by simp [idxSlot])
  simpa [idxConsumed, optNumToks] using this

end JmesVerif
