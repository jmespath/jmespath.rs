import JmesVerif.Lemmas.AbnfDev
/-
Completeness of `Legal` w.r.t. the published ABNF, part 1: the *attach* lemma.

Given a legal (and deviation-free) tree and one more application `it` (a postfix such as `.x`, `[0]`,
`[?p]`, or a binary application `|| e`), there is a legal tree spelling the concatenated token string:
the application is taken by the innermost level on the right spine of the tree whose ambient binding
power is below the application's power (shunting-yard step), or it replaces an empty projection
right-hand side.
-/
namespace JmesVerif
open GrammarCheck

abbrev Cl (d : Dev) : Prop := d.languageClean

/-! ### head classes

What the side conditions of `Legal` and the deviation counters ask of the head of an expression.  Attaching never changes the
constructor of a head, so the class is kept (`rfl` in every case of `attachNud`). -/

structure HeadClass where
  bracket : Bool
  dot : Bool
  star : Bool
  expref : Bool
  mlist : Bool

def Nud.headClass (h : Nud) : HeadClass :=
  ⟨h.isBracketHead, h.isDotHead, h.isStar, h.isExpref, h.isMlist⟩

def Expr.headClass : Expr → HeadClass
  | .mk h _ => h.headClass


theorem Led.lbp_le_INF (l : Led) : l.lbp ≤ INF := by
  cases l <;> simp [Led.lbp, INF]

theorem ledDev_clean_notCall (l : Led) (h : Cl (ledDev l)) : l.isCallDev = false := by
  cases l <;> first | rfl | exact absurd ((Dev.clean_add ..).1 h).2 Dev.not_clean_f3

theorem ledsDev_clean_notCall : ∀ (ls : List Led), Cl (ledsDev ls) → ∀ l ∈ ls, l.isCallDev = false
  | [], _ => nofun
  | l :: ls, h => by
    have h := (Dev.clean_add ..).1 h
    intro l' hl'
    rcases List.mem_cons.1 hl' with rfl | hl'
    · exact ledDev_clean_notCall _ h.1
    · exact ledsDev_clean_notCall ls h.2 l' hl'

theorem callDevOk_of_clean (h : Nud) : ∀ (ls : List Led), Cl (ledsDev ls) → callDevOk h ls
  | [], _ => trivial
  | l :: ls, hc => by
    have := ledsDev_clean_notCall (l :: ls) hc
    refine ⟨fun hl => ?_, fun l' hl' => this l' (List.mem_cons_of_mem _ hl')⟩
    rw [this l (List.mem_cons_self ..)] at hl; cases hl

/-! ### token strings: what is appended goes after the last part -/

theorem toks_mid {r' r y : List Tok} (pre : List Tok) (h : r' = r ++ y) : pre ++ r' = pre ++ r ++ y :=
  h ▸ (List.append_assoc ..).symm

theorem toks_last {a b y : List Tok} (h : a = b ++ y) : a ++ [] = b ++ [] ++ y := by
  simp [h]

theorem toks_new (b y : List Tok) : b ++ (y ++ []) = b ++ [] ++ y := by
  simp


/-- one application to be appended: as a `Led`, and (unless it binds below 10) as a projection
right-hand side -/
structure Item where
  led : Led
  legal : led.Legal
  clean : Cl (ledDev led)
  rhs : led.lbp ≤ 9 ∨ ∀ k, ∃ r : Rhs, r.Legal k ∧ r.toks = led.toks ∧ Cl (rhsDev r)

/-! ### the attach lemma

In each case the new tree is the old constructor around the new last part; its legality, deviation count and `follow` unfold by
computation to those of that part, and its yield is `toks_mid` with what the constructor spells before it.
The right disjunct passes up by `id` where the constructor's `follow` is that of its last part, by `Nat.le_min.2`
where it is `min k e.follow` (`!`, `&`, the binary operators, `Rhs.bracket`, `DotRhs.expr`); `Rhs.none.follow k` is
`9` by definition, so there the left disjunct of `Item.rhs` is the right disjunct as it stands. -/

mutual
theorem attachNud (it : Item) : ∀ h : Nud, h.Legal → Cl (nudDev h) →
    (∃ h' : Nud, h'.Legal ∧ h'.toks = h.toks ++ it.led.toks ∧ h'.headClass = h.headClass ∧ Cl (nudDev h'))
      ∨ it.led.lbp ≤ h.follow
  | .at, _, _ | .field _, _, _ | .qfield _, _, _ | .call _ _, _, _ | .lit _, _, _ | .idx _, _, _
  | .mlist _, _, _ | .mhash _, _, _ | .paren _, _, _ => .inr (Led.lbp_le_INF _)
  | .star r, hl, hc =>
    (attachRhs it r 20 hl hc).imp (fun ⟨r', h1, h2, h3⟩ => ⟨.star r', h1, toks_mid [.star] h2, rfl, h3⟩) id
  | .slice s r, hl, hc =>
    (attachRhs it r 20 hl hc).imp (fun ⟨r', h1, h2, h3⟩ =>
      ⟨.slice s r', h1, toks_mid (.lbracket :: s.toks) (congrArg (.rbracket :: ·) h2), rfl, h3⟩) id
  | .wildIdx r, hl, hc =>
    (attachRhs it r 20 hl hc).imp (fun ⟨r', h1, h2, h3⟩ =>
      ⟨.wildIdx r', h1, toks_mid [.lbracket, .star, .rbracket] h2, rfl, h3⟩) id
  | .flatten r, hl, hc =>
    (attachRhs it r 9 hl hc).imp (fun ⟨r', h1, h2, h3⟩ => ⟨.flatten r', h1, toks_mid [.flatten] h2, rfl, h3⟩) id
  | .filter p r, hl, hc =>
    have hc := (Dev.clean_add ..).1 hc
    (attachRhs it r 21 hl.2 hc.2).imp (fun ⟨r', h1, h2, h3⟩ =>
      ⟨.filter p r', ⟨hl.1, h1⟩, toks_mid (.filter :: p.toks) (congrArg (.rbracket :: ·) h2), rfl,
        (Dev.clean_add ..).2 ⟨hc.1, h3⟩⟩) id
  | .not e, hl, hc =>
    (attachExpr it e 45 hl hc).imp (fun ⟨e', h1, h2, _, h3⟩ => ⟨.not e', h1, toks_mid [.not] h2, rfl, h3⟩)
      Nat.le_min.2
  | .expref e, hl, hc =>
    (attachExpr it e 0 hl hc).imp (fun ⟨e', h1, h2, _, h3⟩ => ⟨.expref e', h1, toks_mid [.ampersand] h2, rfl, h3⟩)
      Nat.le_min.2
theorem attachLed (it : Item) : ∀ l : Led, l.Legal → Cl (ledDev l) →
    (∃ l' : Led, l'.Legal ∧ l'.toks = l.toks ++ it.led.toks ∧ l'.lbp = l.lbp ∧ Cl (ledDev l'))
      ∨ it.led.lbp ≤ l.follow
  | .index _, _, _ | .callDev _, _, _ => .inr (Led.lbp_le_INF _)
  | .dotStar r, hl, hc =>
    (attachRhs it r 20 hl hc).imp (fun ⟨r', h1, h2, h3⟩ =>
      ⟨.dotStar r', h1, toks_mid [.dot, .star] h2, rfl, h3⟩) id
  | .sliceL s r, hl, hc =>
    (attachRhs it r 20 hl hc).imp (fun ⟨r', h1, h2, h3⟩ =>
      ⟨.sliceL s r', h1, toks_mid (.lbracket :: s.toks) (congrArg (.rbracket :: ·) h2), rfl, h3⟩) id
  | .wildIdxL r, hl, hc =>
    (attachRhs it r 20 hl hc).imp (fun ⟨r', h1, h2, h3⟩ =>
      ⟨.wildIdxL r', h1, toks_mid [.lbracket, .star, .rbracket] h2, rfl, h3⟩) id
  | .flattenL r, hl, hc =>
    (attachRhs it r 9 hl hc).imp (fun ⟨r', h1, h2, h3⟩ => ⟨.flattenL r', h1, toks_mid [.flatten] h2, rfl, h3⟩) id
  | .filterL p r, hl, hc =>
    have hc := (Dev.clean_add ..).1 hc
    (attachRhs it r 21 hl.2 hc.2).imp (fun ⟨r', h1, h2, h3⟩ =>
      ⟨.filterL p r', ⟨hl.1, h1⟩, toks_mid (.filter :: p.toks) (congrArg (.rbracket :: ·) h2), rfl,
        (Dev.clean_add ..).2 ⟨hc.1, h3⟩⟩) id
  | .dot d, hl, hc =>
    (attachDot it d 40 hl.1 hc).imp (fun ⟨d', h1, h2, h3, h4⟩ =>
      ⟨.dot d', ⟨h1, h3.trans hl.2⟩, toks_mid [.dot] h2, rfl, h4⟩) id
  | .or e, hl, hc =>
    (attachExpr it e 2 hl hc).imp (fun ⟨e', h1, h2, _, h3⟩ => ⟨.or e', h1, toks_mid [.or] h2, rfl, h3⟩)
      Nat.le_min.2
  | .and e, hl, hc =>
    (attachExpr it e 3 hl hc).imp (fun ⟨e', h1, h2, _, h3⟩ => ⟨.and e', h1, toks_mid [.and] h2, rfl, h3⟩)
      Nat.le_min.2
  | .pipe e, hl, hc =>
    (attachExpr it e 1 hl hc).imp (fun ⟨e', h1, h2, _, h3⟩ => ⟨.pipe e', h1, toks_mid [.pipe] h2, rfl, h3⟩)
      Nat.le_min.2
  | .cmp o e, hl, hc =>
    (attachExpr it e 5 hl hc).imp (fun ⟨e', h1, h2, _, h3⟩ => ⟨.cmp o e', h1, toks_mid [cmpTok o] h2, rfl, h3⟩)
      Nat.le_min.2
theorem attachRhs (it : Item) : ∀ (r : Rhs) (k : Nat), r.Legal k → Cl (rhsDev r) →
    (∃ r' : Rhs, r'.Legal k ∧ r'.toks = r.toks ++ it.led.toks ∧ Cl (rhsDev r'))
      ∨ it.led.lbp ≤ r.follow k
  | .none, k, _, _ => it.rhs.symm.imp (· k) id
  | .dot d, k, hl, hc =>
    (attachDot it d k hl hc).imp (fun ⟨d', h1, h2, _, h4⟩ => ⟨.dot d', h1, toks_mid [.dot] h2, h4⟩) id
  | .bracket (.mk h ls), k, hl, hc =>
    have hc := (rhsDev_bracket_clean h ls).1 hc
    (attachExpr it (.mk h ls) k hl.1 hc.1).imp (fun ⟨.mk h' ls', h1, h2, h3, h4⟩ =>
      ⟨.bracket (.mk h' ls'), ⟨h1, (congrArg HeadClass.bracket h3).trans hl.2⟩, h2,
        (rhsDev_bracket_clean h' ls').2 ⟨h4, (congrArg HeadClass.mlist h3).trans hc.2⟩⟩) Nat.le_min.2
theorem attachDot (it : Item) : ∀ (d : DotRhs) (k : Nat), d.Legal k → Cl (dotDev d) →
    (∃ d' : DotRhs, d'.Legal k ∧ d'.toks = d.toks ++ it.led.toks ∧ d'.startsWithStar = d.startsWithStar
        ∧ Cl (dotDev d'))
      ∨ it.led.lbp ≤ d.follow k
  | .mlist _, _, _, _ => .inr (Led.lbp_le_INF _)
  | .expr (.mk h ls), k, hl, hc =>
    (attachExpr it (.mk h ls) k hl.1 hc).imp (fun ⟨.mk h' ls', h1, h2, h3, h4⟩ =>
      ⟨.expr (.mk h' ls'), ⟨h1, (congrArg HeadClass.dot h3).trans hl.2⟩, h2, congrArg HeadClass.star h3, h4⟩)
      Nat.le_min.2
theorem attachExpr (it : Item) : ∀ (e : Expr) (rbp : Nat), e.Legal rbp → Cl (exprDev false e) →
    (∃ e' : Expr, e'.Legal rbp ∧ e'.toks = e.toks ++ it.led.toks ∧ e'.headClass = e.headClass
        ∧ Cl (exprDev false e'))
      ∨ (it.led.lbp ≤ rbp ∧ it.led.lbp ≤ e.follow)
  | .mk h [], rbp, hl, hc => by
    have hc := (exprDev_false_clean h []).1 hc
    rcases attachNud it h hl.1 hc.1 with ⟨h', h1, h2, h3, h4⟩ | hf
    · exact .inl ⟨.mk h' [], ⟨h1, trivial, trivial⟩, toks_last h2, h3,
        (exprDev_false_clean h' []).2 ⟨h4, hc.2.1, (congrArg HeadClass.expref h3).trans hc.2.2⟩⟩
    · by_cases hp : rbp < it.led.lbp
      · -- the application starts the list of this level
        have hi : Cl (ledsDev [it.led]) := (Dev.clean_add ..).2 ⟨it.clean, Dev.clean_empty⟩
        exact .inl ⟨.mk h [it.led], ⟨hl.1, ⟨hp, hf, it.legal, trivial⟩, callDevOk_of_clean h _ hi⟩,
          toks_new .., rfl, (exprDev_false_clean h _).2 ⟨hc.1, hi, hc.2.2⟩⟩
      · exact .inr ⟨Nat.le_of_not_lt hp, hf⟩
  | .mk h (l :: ls), rbp, hl, hc =>
    have hc := (exprDev_false_clean h (l :: ls)).1 hc
    (attachLeds it (l :: ls) rbp h.follow hl.2.1 hc.2.1 nofun).imp (fun ⟨ls', h1, h2, h3⟩ =>
      ⟨.mk h ls', ⟨hl.1, h1, callDevOk_of_clean h ls' h3⟩, toks_mid h.toks h2, rfl,
        (exprDev_false_clean h ls').2 ⟨hc.1, h3, hc.2.2⟩⟩) id
theorem attachLeds (it : Item) : ∀ (ls : List Led) (rbp f : Nat), chain rbp f ls → Cl (ledsDev ls) → ls ≠ [] →
    (∃ ls' : List Led, chain rbp f ls' ∧ ledsToks ls' = ledsToks ls ++ it.led.toks ∧ Cl (ledsDev ls'))
      ∨ (it.led.lbp ≤ rbp ∧ it.led.lbp ≤ ledsFollow f ls)
  | [], _, _, _, _, hne => absurd rfl hne
  | [l], rbp, f, hl, hc, _ => by
    have hc := (Dev.clean_add ..).1 hc
    rcases attachLed it l hl.2.2.1 hc.1 with ⟨l', h1, h2, h3, h4⟩ | hf
    · exact .inl ⟨[l'], ⟨h3 ▸ hl.1, h3 ▸ hl.2.1, h1, trivial⟩, toks_last h2, (Dev.clean_add ..).2 ⟨h4, hc.2⟩⟩
    · by_cases hp : rbp < it.led.lbp
      · -- the application continues this level
        exact .inl ⟨[l, it.led], ⟨hl.1, hl.2.1, hl.2.2.1, hp, hf, it.legal, trivial⟩,
          toks_new ..,
          (Dev.clean_add ..).2 ⟨hc.1, (Dev.clean_add ..).2 ⟨it.clean, Dev.clean_empty⟩⟩⟩
      · exact .inr ⟨Nat.le_of_not_lt hp, hf⟩
  | l :: l2 :: ls, rbp, f, hl, hc, _ =>
    have hc := (Dev.clean_add ..).1 hc
    (attachLeds it (l2 :: ls) rbp l.follow hl.2.2.2 hc.2 nofun).imp (fun ⟨ls', h1, h2, h3⟩ =>
      ⟨l :: ls', ⟨hl.1, hl.2.1, hl.2.2.1, h1⟩, toks_mid l.toks h2, (Dev.clean_add ..).2 ⟨hc.1, h3⟩⟩) id
end

end JmesVerif
