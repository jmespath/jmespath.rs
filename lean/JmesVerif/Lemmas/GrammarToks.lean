import JmesVerif.Spec.Grammar
/-! Equations for the token strings of `Spec/Grammar.lean`, shared by the parser and ABNF proofs. -/
namespace JmesVerif

theorem ledsToks_append : ∀ (a b : List Led), ledsToks (a ++ b) = ledsToks a ++ ledsToks b
  | [], b => by simp [ledsToks]
  | l :: a, b => by simp [ledsToks, ledsToks_append a b]

theorem argsTail_eq : ∀ es : List Expr, es ≠ [] → argsTail es = .comma :: argsToks es
  | [], h => absurd rfl h
  | e :: es, _ => by simp [argsTail, argsToks]

theorem kvsTail_eq : ∀ kvs : List (Bool × String × Expr), kvs ≠ [] → kvsTail kvs = .comma :: kvsToks kvs
  | [], h => absurd rfl h
  | (q, s, e) :: r, _ => by simp [kvsTail, kvsToks]

end JmesVerif
