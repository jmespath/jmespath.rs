import JmesVerif.Spec.Abnf
import JmesVerif.Lemmas.GrammarToks
/-
When a tree is free of the language deviations F3, F4, F5 (`Dev.languageClean`), in terms of its parts.
Both directions of the comparison with the published ABNF (`AbnfSound`, `AbnfAttach` ff.) start from here.
-/
namespace JmesVerif
open GrammarCheck

def Nud.isExpref : Nud → Bool
  | .expref _ => true
  | _ => false

def Nud.isMlist : Nud → Bool
  | .mlist _ => true
  | _ => false

theorem Dev.clean_add (a b : Dev) :
    (a.add b).languageClean ↔ a.languageClean ∧ b.languageClean := by
  simp only [Dev.languageClean, Dev.add]; omega

theorem Dev.clean_empty : ({} : Dev).languageClean := ⟨rfl, rfl, rfl⟩

theorem Dev.clean_f16 (n : Nat) : ({ f16 := n } : Dev).languageClean := ⟨rfl, rfl, rfl⟩

theorem Dev.not_clean_f3 : ¬ ({ f3 := 1 } : Dev).languageClean := fun h => nomatch h.1

theorem Dev.not_clean_f4 : ¬ ({ f4 := 1 } : Dev).languageClean := fun h => nomatch h.2.1

theorem Dev.not_clean_f5 : ¬ ({ f5 := 1 } : Dev).languageClean := fun h => nomatch h.2.2

/-- outside a function argument: head and applications are clean and the head is not `&e` -/
theorem exprDev_false_clean (h : Nud) (ls : List Led) :
    (exprDev false (.mk h ls)).languageClean ↔
      (nudDev h).languageClean ∧ (ledsDev ls).languageClean ∧ h.isExpref = false := by
  cases h <;> simp [exprDev, Dev.clean_add, Dev.clean_f16, Dev.not_clean_f5, Nud.isExpref]

/-- as a function argument: `&e` is allowed as head when nothing is applied to it -/
theorem exprDev_true_clean (h : Nud) (ls : List Led)
    (hd : (exprDev true (.mk h ls)).languageClean) :
    (nudDev h).languageClean ∧ (ledsDev ls).languageClean ∧ (h.isExpref = true → ls = []) := by
  cases h <;> simp only [exprDev, Dev.clean_add, Bool.true_and] at hd <;>
    try exact ⟨hd.1.1, hd.1.2, fun hx => by simp [Nud.isExpref] at hx⟩
  split at hd
  · rename_i he
    simp only [Dev.clean_add] at hd
    exact ⟨hd.1.1, hd.1.2, fun _ => by simpa using he⟩
  · simp only [Dev.clean_add] at hd
    exact absurd hd.2 Dev.not_clean_f5

/-- what is clean as an expression is clean as a function argument -/
theorem exprDev_true_of_false (e : Expr) (h : (exprDev false e).languageClean) :
    (exprDev true e).languageClean := by
  obtain ⟨hd, ls⟩ := e
  have hx := ((exprDev_false_clean hd ls).1 h).2.2
  cases hd <;> first | exact h | cases hx

/-- a clean bracket right-hand side is a clean expression whose head is not a multi-select list -/
theorem rhsDev_bracket_clean (h : Nud) (ls : List Led) :
    (rhsDev (.bracket (.mk h ls))).languageClean ↔
      (exprDev false (.mk h ls)).languageClean ∧ h.isMlist = false := by
  cases h <;> simp [rhsDev, Dev.clean_add, Dev.clean_empty, Dev.not_clean_f4, Nud.isMlist]

end JmesVerif
