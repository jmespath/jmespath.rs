import JmesVerif.Spec.SemFull
import JmesVerif.Lemmas.InterpDisc
/-
`SemFull` extends `Sem`: on core expressions the two semantics coincide, core expressions are
covered (`exprOk`), and covered expressions have disciplined trees.
-/
namespace JmesVerif

mutual
theorem nudOk_of_core : ∀ h : Nud, Sem.nudCore h = true → SemFull.nudOk h = true
  | .at, _ => rfl
  | .field _, _ => rfl
  | .qfield _, _ => rfl
  | .call _ _, hc => by simp [Sem.nudCore] at hc
  | .lit _, hc => by simpa [Sem.nudCore, SemFull.nudOk] using hc
  | .idx _, _ => rfl
  | .paren e, hc => exprOk_of_core e hc
  | .not e, hc => exprOk_of_core e hc
  | .mlist es, hc => exprsOk_of_core es hc
  | .mhash kvs, hc => kvsOk_of_core kvs hc
  | .wildIdx r, hc => rhsOk_of_core r hc
  | .star r, hc => rhsOk_of_core r hc
  | .flatten r, hc => rhsOk_of_core r hc
  | .slice _ r, hc => rhsOk_of_core r hc
  | .filter p r, hc => by
    simp only [Sem.nudCore, Bool.and_eq_true] at hc
    simp only [SemFull.nudOk, Bool.and_eq_true]
    exact ⟨exprOk_of_core p hc.1, rhsOk_of_core r hc.2⟩
  | .expref _, hc => by simp [Sem.nudCore] at hc
theorem ledOk_of_core : ∀ l : Led, Sem.ledCore l = true → SemFull.ledOk l = true
  | .dot dr, hc => dotOk_of_core dr hc
  | .index _, _ => rfl
  | .pipe e, hc => exprOk_of_core e hc
  | .or e, hc => exprOk_of_core e hc
  | .and e, hc => exprOk_of_core e hc
  | .cmp _ e, hc => exprOk_of_core e hc
  | .wildIdxL r, hc => rhsOk_of_core r hc
  | .dotStar r, hc => rhsOk_of_core r hc
  | .flattenL r, hc => rhsOk_of_core r hc
  | .sliceL _ r, hc => rhsOk_of_core r hc
  | .filterL p r, hc => by
    simp only [Sem.ledCore, Bool.and_eq_true] at hc
    simp only [SemFull.ledOk, Bool.and_eq_true]
    exact ⟨exprOk_of_core p hc.1, rhsOk_of_core r hc.2⟩
  | .callDev _, hc => by simp [Sem.ledCore] at hc
theorem rhsOk_of_core : ∀ r : Rhs, Sem.rhsCore r = true → SemFull.rhsOk r = true
  | .none, _ => rfl
  | .dot dr, hc => dotOk_of_core dr hc
  | .bracket e, hc => exprOk_of_core e hc
theorem dotOk_of_core : ∀ dr : DotRhs, Sem.dotCore dr = true → SemFull.dotOk dr = true
  | .mlist es, hc => exprsOk_of_core es hc
  | .expr e, hc => exprOk_of_core e hc
/-- core expressions are covered by the full semantics -/
theorem exprOk_of_core : ∀ e : Expr, Sem.exprCore e = true → SemFull.exprOk e = true
  | .mk h ls, hc => by
    simp only [Sem.exprCore, Bool.and_eq_true] at hc
    simp only [SemFull.exprOk, Bool.and_eq_true]
    exact ⟨nudOk_of_core h hc.1, ledsOk_of_core ls hc.2⟩
theorem ledsOk_of_core : ∀ ls : List Led, Sem.ledsCore ls = true → SemFull.ledsOk ls = true
  | [], _ => rfl
  | l :: ls, hc => by
    simp only [Sem.ledsCore, Bool.and_eq_true] at hc
    simp only [SemFull.ledsOk, Bool.and_eq_true]
    exact ⟨ledOk_of_core l hc.1, ledsOk_of_core ls hc.2⟩
theorem exprsOk_of_core : ∀ es : List Expr, Sem.exprsCore es = true → SemFull.exprsOk es = true
  | [], _ => rfl
  | e :: es, hc => by
    simp only [Sem.exprsCore, Bool.and_eq_true] at hc
    simp only [SemFull.exprsOk, Bool.and_eq_true]
    exact ⟨exprOk_of_core e hc.1, exprsOk_of_core es hc.2⟩
theorem kvsOk_of_core : ∀ kvs : List (Bool × String × Expr), Sem.kvsCore kvs = true →
    SemFull.kvsOk kvs = true
  | [], _ => rfl
  | (_, _, e) :: r, hc => by
    simp only [Sem.kvsCore, Bool.and_eq_true] at hc
    simp only [SemFull.kvsOk, Bool.and_eq_true]
    exact ⟨exprOk_of_core e hc.1, kvsOk_of_core r hc.2⟩
end

mutual
theorem nud_eq_Sem : ∀ h : Nud, Sem.nudCore h = true → ∀ d : Val, SemFull.nud d h = Sem.nud d h
  | .at, _, d => rfl
  | .field _, _, d => rfl
  | .qfield _, _, d => rfl
  | .call _ _, hc, _ => by simp [Sem.nudCore] at hc
  | .lit _, _, d => rfl
  | .idx _, _, d => rfl
  | .paren e, hc, d => by
    simp only [SemFull.nud, Sem.nud, SemFull_eq_Sem e hc]
  | .not e, hc, d => by
    simp only [SemFull.nud, Sem.nud, SemFull_eq_Sem e hc]
  | .mlist es, hc, d => by
    simp only [SemFull.nud, Sem.nud, exprs_eq_Sem es hc]
  | .mhash kvs, hc, d => by
    simp only [SemFull.nud, Sem.nud, kvs_eq_Sem kvs hc]
  | .wildIdx r, hc, d => by
    simp only [SemFull.nud, Sem.nud, rhs_eq_Sem r hc]
    cases d <;> rfl
  | .star r, hc, d => by
    simp only [SemFull.nud, Sem.nud, rhs_eq_Sem r hc]
    cases d <;> rfl
  | .flatten r, hc, d => by
    simp only [SemFull.nud, Sem.nud, rhs_eq_Sem r hc]
    cases d <;> rfl
  | .slice _ r, hc, d => by
    simp only [SemFull.nud, Sem.nud, rhs_eq_Sem r hc]
    cases d <;> rfl
  | .filter p r, hc, d => by
    simp only [Sem.nudCore, Bool.and_eq_true] at hc
    simp only [SemFull.nud, Sem.nud, SemFull_eq_Sem p hc.1, rhs_eq_Sem r hc.2]
    cases d <;> rfl
  | .expref _, hc, _ => by simp [Sem.nudCore] at hc
theorem led_eq_Sem : ∀ l : Led, Sem.ledCore l = true → ∀ d lv : Val, SemFull.led d lv l = Sem.led d lv l
  | .dot dr, hc, d, lv => by
    simp only [SemFull.led, Sem.led, dot_eq_Sem dr hc]
  | .index _, _, d, lv => rfl
  | .pipe e, hc, d, lv => by
    simp only [SemFull.led, Sem.led, SemFull_eq_Sem e hc]
  | .or e, hc, d, lv => by
    simp only [SemFull.led, Sem.led, SemFull_eq_Sem e hc]
  | .and e, hc, d, lv => by
    simp only [SemFull.led, Sem.led, SemFull_eq_Sem e hc]
  | .cmp _ e, hc, d, lv => by
    simp only [SemFull.led, Sem.led, SemFull_eq_Sem e hc]
  | .wildIdxL r, hc, d, lv => by
    simp only [SemFull.led, Sem.led, rhs_eq_Sem r hc]
    cases lv <;> rfl
  | .dotStar r, hc, d, lv => by
    simp only [SemFull.led, Sem.led, rhs_eq_Sem r hc]
    cases lv <;> rfl
  | .flattenL r, hc, d, lv => by
    simp only [SemFull.led, Sem.led, rhs_eq_Sem r hc]
    cases lv <;> rfl
  | .sliceL _ r, hc, d, lv => by
    simp only [SemFull.led, Sem.led, rhs_eq_Sem r hc]
    cases lv <;> rfl
  | .filterL p r, hc, d, lv => by
    simp only [Sem.ledCore, Bool.and_eq_true] at hc
    simp only [SemFull.led, Sem.led, SemFull_eq_Sem p hc.1, rhs_eq_Sem r hc.2]
    cases lv <;> rfl
  | .callDev _, hc, _, _ => by simp [Sem.ledCore] at hc
theorem rhs_eq_Sem : ∀ r : Rhs, Sem.rhsCore r = true → ∀ el : Val, SemFull.rhs el r = Sem.rhs el r
  | .none, _, el => rfl
  | .dot dr, hc, el => by
    simp only [SemFull.rhs, Sem.rhs, dot_eq_Sem dr hc]
  | .bracket e, hc, el => by
    simp only [SemFull.rhs, Sem.rhs, SemFull_eq_Sem e hc]
theorem dot_eq_Sem : ∀ dr : DotRhs, Sem.dotCore dr = true → ∀ el : Val, SemFull.dot el dr = Sem.dot el dr
  | .mlist es, hc, el => by
    simp only [SemFull.dot, Sem.dot, exprs_eq_Sem es hc]
  | .expr e, hc, el => by
    simp only [SemFull.dot, Sem.dot, SemFull_eq_Sem e hc]
/-- on core expressions the full semantics is the core semantics -/
theorem SemFull_eq_Sem : ∀ e : Expr, Sem.exprCore e = true → ∀ d : Val, SemFull.expr d e = Sem.expr d e
  | .mk h ls, hc, d => by
    simp only [Sem.exprCore, Bool.and_eq_true] at hc
    simp only [SemFull.expr, Sem.expr, nud_eq_Sem h hc.1, leds_eq_Sem ls hc.2]
    cases Sem.nud d h <;> rfl
theorem leds_eq_Sem : ∀ ls : List Led, Sem.ledsCore ls = true → ∀ d lv : Val,
    SemFull.leds d lv ls = Sem.leds d lv ls
  | [], _, d, lv => rfl
  | l :: ls, hc, d, lv => by
    simp only [Sem.ledsCore, Bool.and_eq_true] at hc
    simp only [SemFull.leds, Sem.leds, led_eq_Sem l hc.1, leds_eq_Sem ls hc.2]
    cases Sem.led d lv l <;> rfl
theorem exprs_eq_Sem : ∀ es : List Expr, Sem.exprsCore es = true → ∀ d : Val,
    SemFull.exprs d es = Sem.exprs d es
  | [], _, d => rfl
  | e :: es, hc, d => by
    simp only [Sem.exprsCore, Bool.and_eq_true] at hc
    simp only [SemFull.exprs, Sem.exprs, SemFull_eq_Sem e hc.1, exprs_eq_Sem es hc.2]
    cases Sem.expr d e <;> rfl
theorem kvs_eq_Sem : ∀ kvs : List (Bool × String × Expr), Sem.kvsCore kvs = true →
    ∀ (d : Val) (acc : List (String × Val)), SemFull.kvs' d kvs acc = Sem.kvs' d kvs acc
  | [], _, d, acc => rfl
  | (_, _, e) :: r, hc, d, acc => by
    simp only [Sem.kvsCore, Bool.and_eq_true] at hc
    simp only [SemFull.kvs', Sem.kvs', SemFull_eq_Sem e hc.1, kvs_eq_Sem r hc.2]
    cases Sem.expr d e <;> rfl
end

theorem discArgs_cons_of_disc (name : String) (i : Nat) (a : Ast) (rest : List Ast)
    (ha : a.Disciplined = true) :
    Ast.discArgs name i (a :: rest) = Ast.discArgs name (i + 1) rest := by
  rw [Ast.discArgs.eq_3]
  · simp [ha]
  · intro p body he
    subst he
    simp [Ast.Disciplined] at ha

/-- the step of `args_disc`, with everything about the head, its leds and the remaining arguments as
hypotheses: the overlapping patterns of `SemFull.argsOk` / `Ast.discArgs` (a bare `&e` first, any
argument after) are analysed here, outside the structural recursion of the mutual block below -/
theorem args_cons_disc (h : Nud) (ls : List Led) (rest : List Expr)
    (hnud : SemFull.nudOk h = true → h.ast.Disciplined = true)
    (hfn : ∀ e, h = .expref e → SemFull.exprOk e = true → e.ast.Disciplined = true)
    (hleds : SemFull.ledsOk ls = true → ∀ left : Ast, left.Disciplined = true →
      (ledsAst left ls).Disciplined = true)
    (hrest : ∀ (name : String) (i : Nat), SemFull.argsOk name i rest = true →
      Ast.discArgs name i (exprsAst rest) = true)
    (name : String) (i : Nat) (hok : SemFull.argsOk name i (.mk h ls :: rest) = true) :
    Ast.discArgs name i (exprsAst (.mk h ls :: rest)) = true := by
  by_cases hex : ∃ e, Expr.mk h ls = .mk (.expref e) []
  · obtain ⟨e, he⟩ := hex
    injection he with h1 h2
    subst h1; subst h2
    simp only [SemFull.argsOk, Bool.and_eq_true] at hok
    simp only [exprsAst, Expr.ast, Nud.ast, ledsAst, Ast.discArgs, Bool.and_eq_true]
    exact ⟨⟨hok.1.1, hfn e rfl hok.1.2⟩, hrest name (i + 1) hok.2⟩
  · have hne : ∀ e', Expr.mk h ls = .mk (.expref e') [] → False := fun e' he => hex ⟨e', he⟩
    rw [SemFull.argsOk.eq_3 _ _ _ _ hne] at hok
    simp only [Bool.and_eq_true, SemFull.exprOk] at hok
    have hD : (Expr.mk h ls).ast.Disciplined = true := by
      simp only [Expr.ast]
      exact hleds hok.1.2 _ (hnud hok.1.1)
    simp only [exprsAst]
    rw [discArgs_cons_of_disc _ _ _ _ hD]
    exact hrest name (i + 1) hok.2

mutual
theorem nud_disc : ∀ h : Nud, SemFull.nudOk h = true → h.ast.Disciplined = true
  | .at, _ => by simp [Nud.ast, Ast.Disciplined]
  | .field _, _ => by simp [Nud.ast, Ast.Disciplined]
  | .qfield _, _ => by simp [Nud.ast, Ast.Disciplined]
  | .call name as, hc => by
    simp only [SemFull.nudOk] at hc
    simpa [Nud.ast, Ast.Disciplined] using args_disc as name 0 hc
  | .lit _, hc => by simpa [SemFull.nudOk, Nud.ast, Ast.Disciplined] using hc
  | .idx _, _ => by simp [Nud.ast, Ast.Disciplined]
  | .paren e, hc => by simpa [Nud.ast] using expr_disc e hc
  | .not e, hc => by simpa [Nud.ast, Ast.Disciplined] using expr_disc e hc
  | .mlist es, hc => by simpa [Nud.ast, Ast.Disciplined] using exprs_disc es hc
  | .mhash kvs, hc => by simpa [Nud.ast, Ast.Disciplined] using kvs_disc kvs hc
  | .wildIdx r, hc => by simpa [Nud.ast, Ast.Disciplined] using rhs_disc r hc
  | .star r, hc => by simpa [Nud.ast, Ast.Disciplined] using rhs_disc r hc
  | .flatten r, hc => by simpa [Nud.ast, Ast.Disciplined] using rhs_disc r hc
  | .slice _ r, hc => by simpa [Nud.ast, Ast.Disciplined] using rhs_disc r hc
  | .filter p r, hc => by
    simp only [SemFull.nudOk, Bool.and_eq_true] at hc
    simp [Nud.ast, Ast.Disciplined, expr_disc p hc.1, rhs_disc r hc.2]
  | .expref _, hc => by simp [SemFull.nudOk] at hc
theorem led_disc : ∀ l : Led, SemFull.ledOk l = true → ∀ left : Ast, left.Disciplined = true →
    (l.ast left).Disciplined = true
  | .dot dr, hc, left, hl => by simp [Led.ast, Ast.Disciplined, hl, dot_disc dr hc]
  | .index _, _, left, hl => by simp [Led.ast, Ast.Disciplined, hl]
  | .pipe e, hc, left, hl => by simp [Led.ast, Ast.Disciplined, hl, expr_disc e hc]
  | .or e, hc, left, hl => by simp [Led.ast, Ast.Disciplined, hl, expr_disc e hc]
  | .and e, hc, left, hl => by simp [Led.ast, Ast.Disciplined, hl, expr_disc e hc]
  | .cmp _ e, hc, left, hl => by simp [Led.ast, Ast.Disciplined, hl, expr_disc e hc]
  | .wildIdxL r, hc, left, hl => by simp [Led.ast, Ast.Disciplined, hl, rhs_disc r hc]
  | .dotStar r, hc, left, hl => by simp [Led.ast, Ast.Disciplined, hl, rhs_disc r hc]
  | .flattenL r, hc, left, hl => by simp [Led.ast, Ast.Disciplined, hl, rhs_disc r hc]
  | .sliceL _ r, hc, left, hl => by simp [Led.ast, Ast.Disciplined, hl, rhs_disc r hc]
  | .filterL p r, hc, left, hl => by
    simp only [SemFull.ledOk, Bool.and_eq_true] at hc
    simp [Led.ast, Ast.Disciplined, hl, expr_disc p hc.1, rhs_disc r hc.2]
  | .callDev _, hc, _, _ => by simp [SemFull.ledOk] at hc
theorem rhs_disc : ∀ r : Rhs, SemFull.rhsOk r = true → r.ast.Disciplined = true
  | .none, _ => by simp [Rhs.ast, Ast.Disciplined]
  | .dot dr, hc => by simpa [Rhs.ast] using dot_disc dr hc
  | .bracket e, hc => by simpa [Rhs.ast] using expr_disc e hc
theorem dot_disc : ∀ dr : DotRhs, SemFull.dotOk dr = true → dr.ast.Disciplined = true
  | .mlist es, hc => by simpa [DotRhs.ast, Ast.Disciplined] using exprs_disc es hc
  | .expr e, hc => by simpa [DotRhs.ast] using expr_disc e hc
theorem expr_disc : ∀ e : Expr, SemFull.exprOk e = true → e.ast.Disciplined = true
  | .mk h ls, hc => by
    simp only [SemFull.exprOk, Bool.and_eq_true] at hc
    simpa [Expr.ast] using leds_disc ls hc.2 h.ast (nud_disc h hc.1)
theorem leds_disc : ∀ ls : List Led, SemFull.ledsOk ls = true → ∀ left : Ast, left.Disciplined = true →
    (ledsAst left ls).Disciplined = true
  | [], _, left, hl => by simpa [ledsAst] using hl
  | l :: ls, hc, left, hl => by
    simp only [SemFull.ledsOk, Bool.and_eq_true] at hc
    simpa [ledsAst] using leds_disc ls hc.2 _ (led_disc l hc.1 left hl)
theorem exprs_disc : ∀ es : List Expr, SemFull.exprsOk es = true → Ast.discList (exprsAst es) = true
  | [], _ => by simp [exprsAst, Ast.discList]
  | e :: es, hc => by
    simp only [SemFull.exprsOk, Bool.and_eq_true] at hc
    simp [exprsAst, Ast.discList, expr_disc e hc.1, exprs_disc es hc.2]
theorem kvs_disc : ∀ kvs : List (Bool × String × Expr), SemFull.kvsOk kvs = true →
    Ast.discKVs (kvsAst kvs) = true
  | [], _ => by simp [kvsAst, Ast.discKVs]
  | (_, _, e) :: r, hc => by
    simp only [SemFull.kvsOk, Bool.and_eq_true] at hc
    simp [kvsAst, Ast.discKVs, expr_disc e hc.1, kvs_disc r hc.2]
theorem nud_fn_disc : ∀ h : Nud, ∀ e, h = .expref e → SemFull.exprOk e = true → e.ast.Disciplined = true
  | _, e, rfl, hok => expr_disc e hok
theorem args_disc : ∀ (es : List Expr) (name : String) (i : Nat), SemFull.argsOk name i es = true →
    Ast.discArgs name i (exprsAst es) = true
  | [], _, _, _ => by simp [exprsAst, Ast.discArgs]
  | (.mk h ls) :: rest, name, i, hok =>
    args_cons_disc h ls rest (nud_disc h) (nud_fn_disc h) (leds_disc ls) (args_disc rest) name i hok
end


#print axioms exprOk_of_core
#print axioms SemFull_eq_Sem

end JmesVerif
