import JmesVerif.Spec.Functions
import JmesVerif.Lemmas.Builtins
import JmesVerif.Lemmas.Compositional
/-!
# Every builtin meets the function specification (`Spec/Functions.lean`)

Part A: the order of the specification (`Spec.Fn.Le`) is the order the code sorts by (`vle`) on what
the signatures accept.  Part B: the 22 builtins that take no expression reference: `pure_meets_spec`, by
cases on the argument shapes the signatures accept (`Builtin.Accepts`).  Part C: `map`, `sort_by`, `max_by`,
`min_by` against the evaluation of the reference.  Two definitions the statements need are here:
`ToNumberPadded`, the one class of calls that departs from the specification, and `evalRef`, the
evaluation of a reference by `interp`.
-/
namespace JmesVerif
open Spec.Fn

/-! ## A. the two orders -/

theorem le_str_iff (x y : String) : vle (.str x) (.str y) = true ↔ Le (.str x) (.str y) := by
  show _ ↔ x.toList ≤ y.toList
  rw [← List.not_lt, ← cmp_str_lt y x, vle]
  have : Val.cmp (.str x) (.str y) = .gt ↔ Val.cmp (.str y) (.str x) = .lt := by
    show compare x y = .gt ↔ compare y x = .lt
    exact Std.OrientedCmp.gt_iff_lt
  rw [← this]
  cases Val.cmp (.str x) (.str y) <;> simp

theorem le_num_iff (x y : Num) (h : BothFinite x y) :
    vle (.num x) (.num y) = true ↔ Le (.num x) (.num y) := by
  rw [vle_num x y h]
  simp [Le, numVal]

theorem vle_iff_le {xs : List Val} (h : Homog xs) {a b : Val} (ha : a ∈ xs) (hb : b ∈ xs) :
    vle a b = true ↔ Le a b := by
  rcases h with h | h
  · obtain ⟨x, rfl⟩ := h a ha
    obtain ⟨y, rfl⟩ := h b hb
    exact le_str_iff x y
  · obtain ⟨x, rfl, hx⟩ := h a ha
    obtain ⟨y, rfl, hy⟩ := h b hb
    exact le_num_iff x y ⟨hx, hy⟩

/-- sorting by key in the code's order is a stable ascending permutation in the specification's order -/
theorem stableAscending_sortKey {α : Type} (key : α → Val) (xs : List α) (hH : Homog (xs.map key)) :
    StableAscending key xs (xs.mergeSort fun a b => vle (key a) (key b)) := by
  have hp := sortKey_perm key xs
  refine ⟨hp, (sortKey_sorted key xs hH).imp_of_mem fun ha hb hab => ?_, fun a b hab hsub => ?_⟩
  · exact (vle_iff_le hH (List.mem_map_of_mem (hp.subset ha)) (List.mem_map_of_mem (hp.subset hb))).1 hab
  · have ha : a ∈ xs := hsub.subset (by simp)
    have hb : b ∈ xs := hsub.subset (by simp)
    exact sortKey_stable key xs hH a b ((vle_iff_le hH (List.mem_map_of_mem ha) (List.mem_map_of_mem hb)).2 hab) hsub

/-! ## B. the builtins that take no expression reference -/

theorem numOfF64_ok {f : F64} {msg : String} {v : Val} (h : numOfF64 f msg = .ok v) :
    f.isFinite = true ∧ v = .num (.flt f) := by
  unfold numOfF64 at h
  split at h
  · rename_i hf
    simp only [Except.ok.injEq] at h
    exact ⟨hf, h.symm⟩
  · cases h

/-! ### `sum` / `avg` -/

theorem add_nonfinite (a b : F64) (h : a.isFinite = false) : (F64.add a b).isFinite = false := by
  cases a <;> cases b <;> simp [F64.add, F64.isFinite] at h ⊢
  rename_i s t
  by_cases hst : s = t <;> simp [hst]

theorem foldl_add_nonfinite (xs : List Val) : ∀ acc : F64, acc.isFinite = false →
    (xs.foldl (fun acc v => F64.add acc ((valNum v).getD F64.zero)) acc).isFinite = false := by
  induction xs with
  | nil => intro acc h; exact h
  | cons x xs ih => intro acc h; exact ih _ (add_nonfinite acc _ h)

/-- the fold of `sum`, whenever its result is finite, is an `IeeeSum` (every partial sum was finite) -/
theorem ieeeSum_foldl (xs : List Val) : ∀ acc : F64, acc.isFinite = true →
    (∀ x ∈ xs, ∃ n, x = .num n ∧ n.toF64.isFinite = true) →
    (xs.foldl (fun acc v => F64.add acc ((valNum v).getD F64.zero)) acc).isFinite = true →
    IeeeSum acc xs (xs.foldl (fun acc v => F64.add acc ((valNum v).getD F64.zero)) acc) := by
  induction xs with
  | nil => intro acc _ _ _; exact .nil acc
  | cons x xs ih =>
    intro acc ha hx hfin
    obtain ⟨n, rfl, hn⟩ := hx x (by simp)
    simp only [List.foldl_cons] at hfin ⊢
    have hs : (F64.add acc ((valNum (.num n)).getD F64.zero)).isFinite = true := by
      cases hc : (F64.add acc ((valNum (.num n)).getD F64.zero)).isFinite with
      | true => rfl
      | false => rw [foldl_add_nonfinite xs _ hc] at hfin; cases hfin
    exact .cons acc n xs _ _ (F64.add_ieee acc n.toF64 ha hn) hs
      (ih _ hs (fun y hy => hx y (by simp [hy])) hfin)

theorem ieeeSum_sumF64 (xs : List Val) (hx : ∀ x ∈ xs, ∃ n, x = .num n) (hwf : WellFormed (.arr xs))
    (hf : (sumF64 xs).isFinite = true) : IeeeSum F64.zero xs (sumF64 xs) := by
  refine ieeeSum_foldl xs F64.zero rfl (fun x hm => ?_) hf
  obtain ⟨n, rfl⟩ := hx x hm
  exact ⟨n, rfl, (hwf n hm).1⟩

theorem div_finite_left (a b : F64) (hb : b.isFinite = true) (h : (F64.div a b).isFinite = true) :
    a.isFinite = true := by
  cases a <;> cases b <;> simp_all [F64.div, F64.isFinite]

theorem spec_avg (xs : List Val) (hx : ∀ x ∈ xs, ∃ n, x = .num n) (hwf : WellFormed (.arr xs)) (v : Val)
    (h : Builtin.pure .avg [.arr xs] = .ok v) : avgSpec [.arr xs] v := by
  by_cases he : xs = []
  · subst he
    exact .inl ⟨rfl, (Except.ok.inj h).symm⟩
  · right
    rw [avg_nonempty xs he] at h
    obtain ⟨hf, rfl⟩ := numOfF64_ok h
    refine ⟨he, _, rfl, hf, ?_⟩
    intro hl
    have hL := F64.ofNat_exact xs.length hl
    have hz := F64.isZero_ofNat (List.length_pos_iff.2 he) hl
    have hs : (sumF64 xs).isFinite = true := div_finite_left _ _ hL.1 hf
    refine ⟨sumF64 xs, ieeeSum_sumF64 xs hx hwf hs, ?_⟩
    have := F64.div_ieee (sumF64 xs) (F64.ofNat xs.length) hs hL.1 hz
    rw [hL.2] at this
    exact this

/-! ### `keys` / `values` / `merge` -/

theorem strs_of_valid (xs : List Val) (hx : ∀ x ∈ xs, ∃ s, x = Val.str s) :
    ∃ ss : List String, xs = ss.map .str := by
  induction xs with
  | nil => exact ⟨[], rfl⟩
  | cons x xs ih =>
    obtain ⟨s, rfl⟩ := hx x (by simp)
    obtain ⟨ss, rfl⟩ := ih (fun y hy => hx y (by simp [hy]))
    exact ⟨s :: ss, rfl⟩

theorem isKeyList_fst (kvs : List (String × Val)) (h : AscendingKeys kvs) :
    IsKeyList kvs (kvs.map (·.1)) := by
  refine ⟨List.pairwise_map.2 h, ?_⟩
  intro k
  rw [Option.isSome_iff_exists]
  simp only [member, lookup_eq_some_iff k _ kvs (ne_of_sortedKeys h), List.mem_map]
  constructor
  · rintro ⟨p, hp, rfl⟩; exact ⟨p.2, hp⟩
  · rintro ⟨x, hx⟩; exact ⟨(k, x), hx, rfl⟩

/-- scanning the arguments from the right for the first object that binds `k` finds the last binding -/
theorem lastBound_findSome (k : String) (args : List Val) :
    LastBound k args (args.reverse.findSome? fun a => match a with
      | .obj kvs => Val.lookup k kvs
      | _ => none) := by
  induction args with
  | nil => exact .inr ⟨rfl, by simp⟩
  | cons a rest ih =>
    rw [List.reverse_cons, List.findSome?_append]
    rcases ih with ⟨pre, kvs, suf, x, he, hk, hr, hn⟩ | ⟨hr, hn⟩
    · rw [hr]
      exact .inl ⟨a :: pre, kvs, suf, x, by rw [he]; rfl, hk, rfl, hn⟩
    · rw [hr]
      simp only [Option.none_or, List.findSome?_cons, List.findSome?_nil]
      cases a with
      | obj kvs =>
        cases hl : Val.lookup k kvs with
        | some x => exact .inl ⟨[], kvs, rest, x, rfl, hl, by simp [hl], hn⟩
        | none =>
          refine .inr ⟨by simp [hl], ?_⟩
          intro kvs' hm
          simp only [List.mem_cons, Val.obj.injEq] at hm
          rcases hm with rfl | hm
          · exact hl
          · exact hn kvs' hm
      | _ =>
        refine .inr ⟨by simp, ?_⟩
        intro kvs' hm
        simp only [List.mem_cons] at hm
        rcases hm with hm | hm
        · cases hm
        · exact hn kvs' hm

theorem spec_merge (args : List Val) (hwf : ∀ a ∈ args, WellFormed a) :
    mergeSpec args (.obj (mergeObjs [] args)) := by
  refine ⟨_, rfl, merge_sorted args, fun k => ?_⟩
  have : member k (mergeObjs [] args) = lastBinding k args := by
    simp only [member]
    rw [mergeObjs_lookup]
    simp [Val.lookup]
  rw [this, lastBinding_sorted k args fun kvs hm => hwf _ hm]
  exact lastBound_findSome k args

/-! ### `to_number` / `type` -/

/-- **the one class of calls on which the implementation departs from the specification**: `to_number`
of a string that is a number token *padded with JSON whitespace* (`" 1 "`, `"\t1e2\n"`) returns the
number (`Variable::from_json` reads a whole JSON text, which may be padded) where `json-number` does not
match and the specification gives `null` -/
def ToNumberPadded (b : Builtin) (args : List Val) : Prop :=
  b = .toNumber ∧ ∃ s n, args = [.str s] ∧ JsonText.parse s.toList = some (.num n) ∧
    ∃ c ∈ s.toList, isJsonWs c

theorem spec_toNumber (a : Val) (hdev : ¬ ToNumberPadded .toNumber [a])
    (v : Val) (h : Builtin.pure .toNumber [a] = .ok v) : toNumberSpec [a] v := by
  cases a
  case str s =>
    simp only [Builtin.pure] at h
    split at h
    · rename_i n hn
      exact .inl ⟨n, ⟨hn, fun c hc hw => hdev ⟨rfl, s, n, rfl, hn, c, hc, hw⟩⟩, (Except.ok.inj h).symm⟩
    · rename_i hn
      exact .inr ⟨fun n hp => hn n hp.1, (Except.ok.inj h).symm⟩
  all_goals exact (Except.ok.inj h).symm

theorem typeName_eq (a : Val) : a.type.name = typeName a := by cases a <;> rfl

/-- **the 22 builtins without expression reference meet the specification** -/
theorem pure_meets_spec (b : Builtin) (hb : b.usesExpref = false) (args : List Val) (off : Nat)
    (hv : b.sig.validate args off = .ok ()) (hwf : ∀ a ∈ args, WellFormed a)
    (hdev : ¬ ToNumberPadded b args) (ev : Ev) (v : Val)
    (h : b.pure args = .ok v) : result b args ev v := by
  cases Builtin.accepts_of_validate hv
  case map | sortBy | maxBy | minBy => cases hb
  case abs n =>
    obtain ⟨hf, rfl⟩ := numOfF64_ok h
    exact ⟨_, rfl, hf, (F64.abs_spec n.toF64 (hwf (.num n) (.head _)).1).2⟩
  case floor n =>
    have hg : Genuine n := hwf (.num n) (.head _)
    obtain ⟨hf, rfl⟩ := numOfF64_ok h
    exact ⟨_, rfl, hf, (F64.floor_spec n.toF64 hg.2 hg.1).2⟩
  case ceil n =>
    have hg : Genuine n := hwf (.num n) (.head _)
    obtain ⟨hf, rfl⟩ := numOfF64_ok h
    exact ⟨_, rfl, hf, (F64.ceil_spec' n.toF64 hg.2 hg.1).2⟩
  case sum xs hx =>
    obtain ⟨hf, rfl⟩ := numOfF64_ok h
    exact ⟨_, rfl, hf, ieeeSum_sumF64 xs hx (hwf _ (.head _)) hf⟩
  case avg xs hx => exact spec_avg xs hx (hwf _ (.head _)) v h
  case containsStr s w =>
    cases w
    case str n =>
      obtain rfl := Except.ok.inj h
      exact ⟨_, rfl, isInfix_iff _ _⟩
    all_goals exact (Except.ok.inj h).symm
  case containsArr xs w =>
    obtain rfl := Except.ok.inj h
    exact ⟨_, rfl, List.any_eq_true⟩
  case startsWith s t =>
    obtain rfl := Except.ok.inj h
    exact ⟨_, rfl, isPrefixOf_iff_append _ _⟩
  case endsWith s t =>
    obtain rfl := Except.ok.inj h
    exact ⟨_, rfl, isSuffixOf_iff_append _ _⟩
  case join glue xs hx =>
    obtain ⟨ss, rfl⟩ := strs_of_valid xs hx
    rw [join_eq] at h
    exact ⟨ss, rfl, (Except.ok.inj h).symm⟩
  case keys kvs =>
    obtain rfl := Except.ok.inj h
    exact ⟨kvs.map (·.1), isKeyList_fst kvs (hwf (.obj kvs) (.head _)), by rw [List.map_map]; rfl⟩
  case values kvs =>
    obtain rfl := Except.ok.inj h
    have hs : AscendingKeys kvs := hwf (.obj kvs) (.head _)
    refine ⟨kvs.map (·.1), kvs.map (·.2), isKeyList_fst kvs hs, rfl, ?_⟩
    rw [List.map_map, List.map_map]
    exact List.map_congr_left fun p hp => (lookup_eq_some_iff p.1 p.2 kvs (ne_of_sortedKeys hs)).2 hp
  case merge =>
    obtain rfl := Except.ok.inj h
    exact spec_merge args hwf
  case max xs hx =>
    obtain rfl := Except.ok.inj h
    have hH := homog_of_strsOrNums hx fun n hn => (hwf (.arr xs) (.head _) n hn).1
    cases hf : foldMax xs with
    | none => cases xs <;> first | exact .inl ⟨rfl, rfl⟩ | simp [foldMax] at hf
    | some w =>
      obtain ⟨hm, hall, -⟩ := foldMax_spec xs hH w hf
      exact .inr ⟨hm, fun x hx => (vle_iff_le hH hx hm).1 (hall x hx)⟩
  case min xs hx =>
    obtain rfl := Except.ok.inj h
    have hH := homog_of_strsOrNums hx fun n hn => (hwf (.arr xs) (.head _) n hn).1
    cases hf : foldMin xs with
    | none => cases xs <;> first | exact .inl ⟨rfl, rfl⟩ | simp [foldMin] at hf
    | some w =>
      obtain ⟨hm, hall, -⟩ := foldMin_spec xs hH w hf
      exact .inr ⟨hm, fun x hx => (vle_iff_le hH hm hx).1 (hall x hx)⟩
  case sort xs hx =>
    obtain rfl := Except.ok.inj h
    have hH := homog_of_strsOrNums hx fun n hn => (hwf (.arr xs) (.head _) n hn).1
    exact ⟨_, rfl, stableAscending_sortKey id xs (by rwa [List.map_id])⟩
  case notNull =>
    rcases notNull_spec args with ⟨pre, w, suf, he, hp, hw, hr⟩ | ⟨hall, hr⟩
    · obtain rfl := Except.ok.inj (hr ▸ h)
      exact .inl ⟨pre, suf, he, hp, hw⟩
    · exact .inr ⟨hall, (Except.ok.inj (hr ▸ h)).symm⟩
  case toNumber a => exact spec_toNumber a hdev v h
  case type a =>
    obtain rfl := Except.ok.inj h
    exact congrArg Val.str (typeName_eq a)
  case toArray a | toString a _ => cases a <;> exact (Except.ok.inj h).symm
  all_goals exact (Except.ok.inj h).symm

/-! ## C. `map` / `sort_by` / `max_by` / `min_by` against the evaluation of the reference -/

/-- the value of the expression reference `a` on the element `x` within the fuel budget `fuel`
(`none`: an error, or the budget exceeded); the offset register does not influence it
(`interp_offset_irrelevant`) -/
def evalRef (rt : Registry) (fuel : Nat) : Ev := fun a x =>
  match interp rt fuel x a 0 with
  | .ok (v, _) => some v
  | .error _ => none

/-- a successful evaluation at any smaller budget and any offset is the value `evalRef` reports -/
theorem evalRef_of_interp (rt : Registry) {f F : Nat} {x : Val} {a : Ast} {o o' : Nat} {v : Val}
    (h : interp rt f x a o = .ok (v, o')) (hle : f ≤ F) : evalRef rt F a x = some v := by
  have h1 := interp_mono rt f x a o _ h (by simp) F hle
  have h2 := (interp_reoffset rt F x a o 0).1 v o' h1
  simp [evalRef, h2]

theorem mapExpref_ev (rt : Registry) (a : Ast) (F : Nat) : ∀ (fuel : Nat) (xs : List Val) (off : Nat)
    (ys : List Val) (off' : Nat), mapExpref rt fuel xs a off = .ok (ys, off') → fuel ≤ F →
      xs.map (evalRef rt F a) = ys.map some := by
  intro fuel
  induction fuel with
  | zero => intro xs off ys off' h; simp [mapExpref] at h
  | succ fuel ih =>
    intro xs off ys off' h hle
    cases xs with
    | nil => simp only [mapExpref_nil, Except.ok.injEq, Prod.mk.injEq] at h; simp [← h.1]
    | cons x rest =>
      obtain ⟨y, o, ys', hi, hr, rfl⟩ := mapExpref_ok_cons h
      simp only [List.map_cons, evalRef_of_interp rt hi (by omega : fuel ≤ F), ih rest _ _ _ hr (by omega)]

theorem keysTyped_ev (rt : Registry) (a : Ast) (ty : JType) (F : Nat) : ∀ (fuel : Nat) (xs : List Val)
    (inv off : Nat) (ks : List Val) (off' : Nat),
    keysTyped rt fuel xs a ty inv off = .ok (ks, off') → fuel ≤ F →
      xs.map (evalRef rt F a) = ks.map some := by
  intro fuel
  induction fuel with
  | zero => intro xs inv off ks off' h; simp [keysTyped] at h
  | succ fuel ih =>
    intro xs inv off ks off' h hle
    cases xs with
    | nil => simp only [keysTyped, Except.ok.injEq, Prod.mk.injEq] at h; simp [← h.1]
    | cons x rest =>
      obtain ⟨k, o, ks', hi, -, hr, rfl⟩ := keysTyped_ok_cons h
      simp only [List.map_cons, evalRef_of_interp rt hi (by omega : fuel ≤ F), ih rest _ _ _ _ hr (by omega)]

theorem spec_map (rt : Registry) (fuel : Nat) (a : Ast) (xs : List Val) (off : Nat) (v : Val) (off' : Nat)
    (h : callFn rt fuel (.builtin .map) [.expref a, .arr xs] off = .ok (v, off')) :
    mapSpec (evalRef rt fuel) [.expref a, .arr xs] v := by
  cases fuel with
  | zero => simp [callFn] at h
  | succ fuel =>
    rw [callFn_map] at h
    split at h
    · cases h
    · next vs o hm =>
      cases h
      exact ⟨vs, rfl, mapExpref_ev rt a (fuel + 1) fuel xs off vs _ hm (by omega)⟩

theorem Val.type_string {v : Val} (h : v.type = .string) : ∃ s, v = .str s := by
  cases v <;> simp_all [Val.type]
theorem Val.type_number {v : Val} (h : v.type = .number) : ∃ n, v = .num n := by
  cases v <;> simp_all [Val.type]

/-- what the three key-taking builtins have in hand after their key loop: the keys are the values of
the reference, all strings or all numbers (the specification's `SameKind`), finite (the code's `Homog`) -/
theorem keys_facts (rt : Registry) (fuel : Nat) (x : Val) (rest : List Val) (a : Ast) (off off1 off2 : Nat)
    (k0 : Val) (ks : List Val) (h1 : interp rt fuel x a off = .ok (k0, off1))
    (hty : ¬ (k0.type ≠ .string ∧ k0.type ≠ .number))
    (h2 : keysTyped rt fuel rest a k0.type 1 off1 = .ok (ks, off2)) (F : Nat) (hF : fuel ≤ F)
    (hkeys : ∀ y ∈ x :: rest, ∀ n, evalRef rt F a y = some (.num n) → n.toF64.isFinite = true) :
    (x :: rest).map (evalRef rt F a) = (k0 :: ks).map some ∧ SameKind (k0 :: ks) ∧
    Homog (((x :: rest).zip (k0 :: ks)).map (·.2)) := by
  have hev : (x :: rest).map (evalRef rt F a) = (k0 :: ks).map some := by
    simp only [List.map_cons, evalRef_of_interp rt h1 hF, keysTyped_ev rt a _ F fuel rest _ _ _ _ h2 hF]
  obtain ⟨hl, hks⟩ := keysTyped_spec rt a _ fuel rest _ _ _ _ h2
  have hall : ∀ k ∈ k0 :: ks, k.type = k0.type := List.forall_mem_cons.2 ⟨rfl, hks⟩
  have hS : SameKind (k0 :: ks) := by
    by_cases hs : k0.type = .string
    · exact .inl fun k hk => Val.type_string ((hall k hk).trans hs)
    · exact .inr fun k hk => Val.type_number ((hall k hk).trans (Decidable.byContradiction fun hn => hty ⟨hs, hn⟩))
  refine ⟨hev, hS, zip_keys_homog x k0 rest ks hl (homog_of_strsOrNums hS fun n hn => ?_)⟩
  obtain ⟨i, hi, hget⟩ := List.getElem_of_mem hn
  have hi' : i < (x :: rest).length := by simpa [hl] using hi
  have := congrArg (fun l => l[i]?) hev
  simp only [List.getElem?_map, List.getElem?_eq_getElem hi, List.getElem?_eq_getElem hi',
    Option.map_some, hget] at this
  exact hkeys _ (List.getElem_mem hi') n (Option.some.inj this)

theorem spec_sortBy (rt : Registry) (fuel : Nat) (xs : List Val) (a : Ast) (off : Nat)
    (hkeys : ∀ x ∈ xs, ∀ n, evalRef rt fuel a x = some (.num n) → n.toF64.isFinite = true)
    (v : Val) (off' : Nat) (h : callFn rt fuel (.builtin .sortBy) [.arr xs, .expref a] off = .ok (v, off')) :
    sortBySpec (evalRef rt fuel) [.arr xs, .expref a] v := by
  cases fuel with
  | zero => simp [callFn] at h
  | succ fuel =>
    obtain ⟨hk, -⟩ := Comp.lift_ok_iff.1 (callFn_sortBy_eq .. ▸ h)
    cases xs with
    | nil => cases hk; exact ⟨[], [], rfl, .inl (by simp), ⟨by simp, by simp, by simp⟩, rfl⟩
    | cons x rest =>
      obtain ⟨k0, ks, h1, hty, h2, rfl⟩ := keyLoop_ok hk
      obtain ⟨hev, hS, hH⟩ := keys_facts rt fuel x rest a off off _ k0 ks h1 hty h2 _ (by omega) hkeys
      exact ⟨k0 :: ks, _, hev, hS, stableAscending_sortKey (fun p : Val × Val => p.2) _ hH, rfl⟩

theorem spec_byExtreme (rt : Registry) (fuel : Nat) (isMax : Bool) (xs : List Val) (a : Ast) (off : Nat)
    (hkeys : ∀ x ∈ xs, ∀ n, evalRef rt fuel a x = some (.num n) → n.toF64.isFinite = true)
    (v : Val) (off' : Nat)
    (h : callFn rt fuel (.builtin (cond isMax .maxBy .minBy)) [.arr xs, .expref a] off = .ok (v, off')) :
    result (cond isMax .maxBy .minBy) [.arr xs, .expref a] (evalRef rt fuel) v := by
  have hc : ∀ f, callFn rt (f + 1) (.builtin (cond isMax .maxBy .minBy)) [.arr xs, .expref a] off =
      byExtreme rt f isMax xs a off := by
    intro f; cases isMax
    · exact callFn_minBy ..
    · exact callFn_maxBy ..
  suffices ∃ ks, xs.map (evalRef rt fuel a) = ks.map some ∧ SameKind ks ∧
      ((xs = [] ∧ v = .null) ∨ ∃ p ∈ xs.zip ks, v = p.1 ∧
        ∀ q ∈ xs.zip ks, if isMax then Le q.2 p.2 else Le p.2 q.2) by
    obtain ⟨ks, hev, hS, hr⟩ := this
    cases isMax <;> exact ⟨ks, hev, hS, by simpa using hr⟩
  cases fuel with
  | zero => simp [callFn] at h
  | succ fuel =>
  rw [hc] at h
  cases fuel with
  | zero => simp [byExtreme] at h
  | succ fuel =>
  obtain ⟨hk, -⟩ := Comp.lift_ok_iff.1 (byExtreme_succ .. ▸ h)
  cases xs with
  | nil => cases hk; exact ⟨[], rfl, .inl (by simp), .inl ⟨rfl, rfl⟩⟩
  | cons x rest =>
    obtain ⟨k0, ks, h1, hty, h2, rfl⟩ := keyLoop_ok hk
    obtain ⟨hev, hS, hH⟩ := keys_facts rt fuel x rest a off off _ k0 ks h1 hty h2 _ (by omega) hkeys
    have hm := pickExtreme_mem isMax x k0 (rest.zip ks)
    refine ⟨k0 :: ks, hev, hS, .inr ⟨pickExtreme isMax x k0 (rest.zip ks), hm, rfl, fun q hq => ?_⟩⟩
    cases isMax with
    | true =>
      obtain ⟨_, _, -, -, -, hall⟩ := pickMax_spec x k0 (rest.zip ks) hH
      exact (vle_iff_le hH (List.mem_map_of_mem hq) (List.mem_map_of_mem hm)).1 (hall q hq)
    | false =>
      obtain ⟨_, _, -, -, -, hall⟩ := pickMin_spec x k0 (rest.zip ks) hH
      exact (vle_iff_le hH (List.mem_map_of_mem hm) (List.mem_map_of_mem hq)).1 (hall q hq)

end JmesVerif

#print axioms JmesVerif.pure_meets_spec
