import JmesVerif.Model.Slice
import JmesVerif.Spec.PySlice

namespace JmesVerif
open Spec

theorem map_range_succ (n : Nat) (a step : Int) :
    (List.range (n + 1)).map (fun (j : Nat) => a + (j : Int) * step)
      = a :: (List.range n).map (fun (j : Nat) => (a + step) + (j : Int) * step) := by
  rw [List.range_succ_eq_map]
  simp only [List.map_cons, List.map_map]
  congr 1
  · simp
  · apply List.map_congr_left
    intro j _
    simp only [Function.comp, Nat.succ_eq_add_one]
    push_cast
    rw [Int.add_mul]; omega

theorem rangeLen_up_succ {a b step : Int} (hs : step > 0) (hab : a < b) :
    rangeLen a b step = rangeLen (a + step) b step + 1 := by
  unfold rangeLen
  simp only [hs, if_true, hab]
  by_cases h : a + step < b
  · simp only [h, if_true]
    have e : b - (a + step) - 1 = (b - a - 1) + (-1) * step := by omega
    rw [e, Int.add_mul_ediv_right _ _ (by omega : step ≠ 0)]
    have : 0 ≤ (b - a - 1 + -1 * step) / step := Int.ediv_nonneg (by omega) (by omega)
    rw [Int.add_mul_ediv_right _ _ (by omega : step ≠ 0)] at this
    omega
  · simp only [h, if_false]
    have : (b - a - 1) / step = 0 := Int.ediv_eq_zero_of_lt (by omega) (by omega)
    rw [this]; rfl

theorem pyRange_up_cons {a b step : Int} (hs : step > 0) (hab : a < b) :
    pyRange a b step = a :: pyRange (a + step) b step := by
  unfold pyRange
  rw [rangeLen_up_succ hs hab, map_range_succ]

theorem pyRange_up_nil {a b step : Int} (hs : step > 0) (hab : b ≤ a) :
    pyRange a b step = [] := by
  unfold pyRange rangeLen
  have : ¬ a < b := by omega
  simp [hs, this]

theorem rangeLen_down_succ {a b step : Int} (hs : step < 0) (hab : b < a) :
    rangeLen a b step = rangeLen (a + step) b step + 1 := by
  unfold rangeLen
  have hs' : ¬ step > 0 := by omega
  simp only [hs', if_false, hs, if_true, hab]
  by_cases h : b < a + step
  · simp only [h, if_true]
    have e : a + step - b - 1 = (a - b - 1) + (-1) * (-step) := by omega
    rw [e, Int.add_mul_ediv_right _ _ (by omega : -step ≠ 0)]
    have : 0 ≤ (a - b - 1 + -1 * -step) / -step := Int.ediv_nonneg (by omega) (by omega)
    rw [Int.add_mul_ediv_right _ _ (by omega : -step ≠ 0)] at this
    omega
  · simp only [h, if_false]
    have : (a - b - 1) / (-step) = 0 := Int.ediv_eq_zero_of_lt (by omega) (by omega)
    rw [this]; rfl

theorem pyRange_down_cons {a b step : Int} (hs : step < 0) (hab : b < a) :
    pyRange a b step = a :: pyRange (a + step) b step := by
  unfold pyRange
  rw [rangeLen_down_succ hs hab, map_range_succ]

theorem pyRange_down_nil {a b step : Int} (hs : step < 0) (hab : a ≤ b) :
    pyRange a b step = [] := by
  unfold pyRange rangeLen
  have h1 : ¬ step > 0 := by omega
  have h2 : ¬ b < a := by omega
  simp [hs, h1, h2]

def look (xs : List α) (k : Int) : Option α := if k < 0 then none else xs[k.toNat]?

theorem loopUp_eq (xs : List α) (b step : Int) (hs : step > 0) (hb : b ≤ xs.length)
    (hlen : (xs.length : Int) ≤ I32_MAX) :
    ∀ (fuel : Nat) (i : Int), 0 ≤ i → (b - i).toNat < fuel →
      loopUp xs b step fuel i = .ok ((pyRange i b step).filterMap (look xs)) := by
  intro fuel
  induction fuel with
  | zero => intro i _ h; omega
  | succ n ih =>
    intro i hi hf
    unfold loopUp
    by_cases hib : i < b
    · have hneg : ¬ i < 0 := by omega
      have hlt : i.toNat < xs.length := by omega
      simp only [hib, if_true, hneg, if_false, List.getElem?_eq_getElem hlt]
      rw [pyRange_up_cons hs hib]
      have hlook : look xs i = some xs[i.toNat] := by
        simp [look, hneg, List.getElem?_eq_getElem hlt]
      simp only [List.filterMap_cons, hlook]
      by_cases hov : i + step > I32_MAX
      · -- saturated: the next index is I32_MAX ≥ len ≥ b, and so is the ideal i + step
        have e1 : addI32 i step = I32_MAX := by simp [addI32, hov]
        have hfuel : 0 < n := by omega
        obtain ⟨m, rfl⟩ : ∃ m, n = m + 1 := ⟨n - 1, by omega⟩
        rw [e1]
        have : ¬ I32_MAX < b := by omega
        simp only [loopUp, this, if_false]
        rw [pyRange_up_nil hs (by omega)]
        simp
      · have e1 : addI32 i step = i + step := by
          have : ¬ i + step < I32_MIN := by unfold I32_MAX I32_MIN at *; omega
          simp [addI32, hov, this]
        rw [e1, ih (i + step) (by omega) (by omega)]
    · simp only [hib, if_false]
      rw [pyRange_up_nil hs (by omega)]
      simp

theorem loopDown_eq (xs : List α) (b step : Int) (hs : step < 0) (hb : -1 ≤ b)
    (hlen : (xs.length : Int) ≤ I32_MAX) :
    ∀ (fuel : Nat) (i : Int), i < xs.length → (i - b).toNat < fuel →
      loopDown xs b step fuel i = .ok ((pyRange i b step).filterMap (look xs)) := by
  intro fuel
  induction fuel with
  | zero => intro i _ h; omega
  | succ n ih =>
    intro i hi hf
    unfold loopDown
    by_cases hib : i > b
    · have hneg : ¬ i < 0 := by omega
      have hlt : i.toNat < xs.length := by omega
      simp only [hib, if_true, hneg, if_false, List.getElem?_eq_getElem hlt]
      rw [pyRange_down_cons hs hib]
      have hlook : look xs i = some xs[i.toNat] := by
        simp [look, hneg, List.getElem?_eq_getElem hlt]
      simp only [List.filterMap_cons, hlook]
      by_cases hov : i + step < I32_MIN
      · have e1 : addI32 i step = I32_MIN := by
          have : ¬ i + step > I32_MAX := by unfold I32_MAX I32_MIN at *; omega
          simp [addI32, hov, this]
        have hfuel : 0 < n := by omega
        obtain ⟨m, rfl⟩ : ∃ m, n = m + 1 := ⟨n - 1, by omega⟩
        rw [e1]
        have : ¬ I32_MIN > b := by unfold I32_MIN at *; omega
        simp only [loopDown, this, if_false]
        rw [pyRange_down_nil hs (by unfold I32_MIN at hov; omega)]
        simp
      · have e1 : addI32 i step = i + step := by
          have : ¬ i + step > I32_MAX := by unfold I32_MAX I32_MIN at *; omega
          simp [addI32, hov, this]
        rw [e1, ih (i + step) (by omega) (by omega)]
    · simp only [hib, if_false]
      rw [pyRange_down_nil hs (by omega)]
      simp

theorem adjust_eq_clamp (len e step : Int) (hlen : 0 ≤ len) :
    adjustEndpoint len e step =
      if step < 0 then clamp (-1) (len - 1) (norm len e) else clamp 0 len (norm len e) := by
  unfold adjustEndpoint clamp norm
  by_cases h0 : e < 0 <;> by_cases hs : step < 0 <;> simp only [h0, hs, if_true, if_false]
  all_goals (split <;> omega)

theorem sliceA_eq_pyStart (len : Int) (start : Option Int) (step : Int) (h0 : 0 ≤ len) :
    sliceA len start step = pyStart len step start := by
  cases start <;> simp [sliceA, pyStart, adjust_eq_clamp _ _ _ h0]

theorem sliceB_eq_pyStop (len : Int) (stop : Option Int) (step : Int) (h0 : 0 ≤ len) :
    sliceB len stop step = pyStop len step stop := by
  cases stop <;> simp [sliceB, pyStop, adjust_eq_clamp _ _ _ h0]

theorem sliceA_up (len : Int) (start : Option Int) (step : Int) (h0 : 0 ≤ len) (hs : step > 0) :
    0 ≤ sliceA len start step := by
  unfold sliceA adjustEndpoint; grind

theorem sliceB_up (len : Int) (stop : Option Int) (step : Int) (h0 : 0 ≤ len) (hs : step > 0) :
    sliceB len stop step ≤ len := by
  unfold sliceB adjustEndpoint; grind

theorem sliceA_down (len : Int) (start : Option Int) (step : Int) (h0 : 0 ≤ len) (hs : step < 0) :
    sliceA len start step < len := by
  unfold sliceA adjustEndpoint; grind

theorem sliceB_down (len : Int) (stop : Option Int) (step : Int) (h0 : 0 ≤ len) (hs : step < 0) :
    -1 ≤ sliceB len stop step := by
  unfold sliceB adjustEndpoint; grind

end JmesVerif
