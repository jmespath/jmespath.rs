import JmesVerif.Lemmas.F64Spec
import JmesVerif.Model.JsonText
import JmesVerif.Model.JsonPrint
/-!
# The JSON number parser is correctly rounded on the exact domain

`f64FromParts positive S E` (serde_json's `f64_from_parts`, the default algorithm without
`float_roundtrip`) computes `(S as f64) * 10^E` or `(S as f64) / 10^|E|`.  When `S ≤ 2^53` and
`|E| ≤ 22` both operands are exact doubles, so the single rounding of the multiplication / division is
the only rounding: the result is the IEEE round-to-nearest-even image of the exact rational
`S · 10^E` (`f64FromParts_exact`).
-/
namespace JmesVerif
namespace FloatExact
open F64

theorem p10_eq_zpow (e : Int) : JsonPrint.pow10 e = (10 : Rat) ^ e := natpow_eq_zpow 10 e

theorem p10_pos (e : Int) : 0 < JsonPrint.pow10 e := by
  rw [p10_eq_zpow]; exact Rat.zpow_pos (by decide)

theorem p10_add (a b : Int) : JsonPrint.pow10 (a + b) = JsonPrint.pow10 a * JsonPrint.pow10 b := by
  simp only [p10_eq_zpow]; exact Rat.zpow_add (by decide) a b

theorem p10_natCast (n : Nat) : JsonPrint.pow10 (n : Int) = ((10 ^ n : Nat) : Rat) := by
  simp [JsonPrint.pow10]

theorem p10_zero : JsonPrint.pow10 0 = 1 := by simp [JsonPrint.pow10]

theorem p10_neg (e : Int) : JsonPrint.pow10 (-e) = 1 / JsonPrint.pow10 e := by
  have h : JsonPrint.pow10 (-e) * JsonPrint.pow10 e = 1 := by rw [← p10_add, Int.add_left_neg, p10_zero]
  have hp : JsonPrint.pow10 e ≠ 0 := by have := p10_pos e; grind
  have := Rat.mul_div_cancel (a := JsonPrint.pow10 (-e)) (b := JsonPrint.pow10 e) hp
  rw [h] at this; exact this.symm

theorem div_p10 (x : Rat) (e : Int) : x / JsonPrint.pow10 e = x * JsonPrint.pow10 (-e) := by
  rw [p10_neg, Rat.div_def, Rat.div_def, Rat.one_mul]

theorem p10_le_p10 {a b : Int} (h : a ≤ b) : JsonPrint.pow10 a ≤ JsonPrint.pow10 b := by
  obtain ⟨n, rfl⟩ : ∃ n : Nat, b = a + n := ⟨(b - a).toNat, by omega⟩
  rw [p10_add, p10_natCast]
  have h1 : (1 : Rat) ≤ ((10 ^ n : Nat) : Rat) := by
    have : 1 ≤ 10 ^ n := Nat.one_le_pow _ _ (by decide)
    exact_mod_cast this
  have := Rat.mul_le_mul_of_nonneg_left h1 (Rat.le_of_lt (p10_pos a))
  simpa using this

theorem absq_natCast (n : Nat) : absq (n : Rat) = (n : Rat) := absq_of_nonneg Rat.natCast_nonneg

/-- `10^k = 5^k · 2^k` with `5^22 < 2^53` -/
theorem representable_pow10 {k : Nat} (hk : k ≤ 22) : Representable ((10 ^ k : Nat) : Rat) := by
  refine ⟨5 ^ k, (k : Int), ?_, by omega, by omega, ?_⟩
  · calc 5 ^ k ≤ 5 ^ 22 := Nat.pow_le_pow_right (by decide) hk
      _ < 2 ^ 53 := by decide
  · rw [absq_natCast, nat_mul_pow2, ← Nat.mul_pow]

/-- the entries `POW10[0..=22]` of the parser's table are exact -/
theorem pow10_exact {k : Nat} (hk : k ≤ 22) :
    (JsonText.pow10 k).isFinite ∧ (JsonText.pow10 k).toRat = ((10 ^ k : Nat) : Rat) :=
  ofRat_exact (representable_pow10 hk)

theorem ofRat_isNeg_of_nonneg {q : Rat} (h : 0 ≤ q) : (ofRat q).isNeg = false := by
  have hq : ¬ q < 0 := by grind
  unfold ofRat
  split <;> simp [isNeg, hq]

theorem pow10_isNeg (k : Nat) : (JsonText.pow10 k).isNeg = false :=
  ofRat_isNeg_of_nonneg Rat.natCast_nonneg

theorem ofNat_isNeg (n : Nat) : (F64.ofNat n).isNeg = false :=
  ofRat_isNeg_of_nonneg Rat.natCast_nonneg

theorem pow10_isZero {k : Nat} (hk : k ≤ 22) : (JsonText.pow10 k).isZero = false := by
  cases hz : (JsonText.pow10 k).isZero with
  | false => rfl
  | true =>
    have := toRat_of_isZero hz
    rw [(pow10_exact hk).2] at this
    have h0 : 10 ^ k = 0 := by exact_mod_cast this
    have : 0 < 10 ^ k := Nat.pow_pos (by decide)
    omega

theorem ofRat_of_nonneg {q : Rat} (h : 0 ≤ q) : ofRat q = ofRatSigned false q := by
  have hq : ¬ q < 0 := by grind
  rw [ofRat_eq_ofRatSigned]; simp [hq]

/-- a bound that keeps every product on the exact domain far below the overflow threshold -/
theorem small_lt_threshold {x : Rat} (h : x ≤ ((2 ^ 64 * 10 ^ 22 : Nat) : Rat)) :
    x < pow2 1024 - pow2 970 := by
  have h1 : (((2 ^ 64 * 10 ^ 22 : Nat) : Nat) : Rat) ≤ ((2 ^ 138 : Nat) : Rat) := by
    have : 2 ^ 64 * 10 ^ 22 ≤ 2 ^ 138 := by decide
    exact_mod_cast this
  rw [← pow2_natCast] at h1
  have h2 : pow2 (138 : Nat) ≤ pow2 1023 := pow2_le_pow2 (by decide)
  exact Std.lt_of_le_of_lt (Rat.le_trans h (Rat.le_trans h1 h2)) pow2_1023_lt_overflow

theorem ofNat_isFinite {S : Nat} (hb : S ≤ 2 ^ 64) : (F64.ofNat S).isFinite = true := by
  unfold F64.ofNat
  rw [ofRat_eq_ofRatSigned, ofRatSigned_finite_iff, absq_natCast]
  apply small_lt_threshold
  have : S ≤ 2 ^ 64 * 10 ^ 22 := Nat.le_trans hb (Nat.le_mul_of_pos_right _ (by decide))
  exact_mod_cast this

/-- **the number parser is correctly rounded whenever the significand is itself a double**
(`(S as f64) = S`, e.g. every `S ≤ 2^53`) and the decimal exponent is within `±22`: `f64_from_parts`
returns the IEEE round-to-nearest-even image (`ofRatSigned_ieee`) of the exact rational `S · 10^E`,
negated for a negative literal. -/
theorem f64FromParts_exact_of_repr (positive : Bool) (S : Nat) (E : Int)
    (hS : (F64.ofNat S).toRat = (S : Rat)) (hb : S ≤ 2 ^ 64) (hE : E.natAbs ≤ 22) :
    JsonText.f64FromParts positive S E =
      some (if positive then ofRatSigned false ((S : Rat) * JsonPrint.pow10 E)
            else (ofRatSigned false ((S : Rat) * JsonPrint.pow10 E)).neg) := by
  have hS' : (F64.ofNat S).isFinite = true ∧ (F64.ofNat S).toRat = (S : Rat) := ⟨ofNat_isFinite hb, hS⟩
  have hP := pow10_exact hE
  have h308 : E.natAbs ≤ 308 := by omega
  by_cases hpos : E ≥ 0
  · obtain ⟨n, rfl⟩ := Int.eq_ofNat_of_zero_le hpos
    have hn : (n : Int).natAbs = n := by simp
    rw [hn] at hP hE
    have hmul : F64.mul (F64.ofNat S) (JsonText.pow10 n) =
        ofRatSigned false ((S : Rat) * JsonPrint.pow10 (n : Int)) := by
      rw [mul_eq_ofRatSigned _ _ hS'.1 hP.1, hS'.2, hP.2, ofNat_isNeg, pow10_isNeg, p10_natCast]
      rfl
    have hfin : (ofRatSigned false ((S : Rat) * JsonPrint.pow10 (n : Int))).isFinite = true := by
      rw [ofRatSigned_finite_iff]
      apply small_lt_threshold
      rw [p10_natCast, ← Rat.natCast_mul, absq_natCast]
      have : S * 10 ^ n ≤ 2 ^ 64 * 10 ^ 22 :=
        Nat.mul_le_mul hb (Nat.pow_le_pow_right (by decide) hE)
      exact_mod_cast this
    have h308' : n ≤ 308 := by omega
    simp only [JsonText.f64FromParts, JsonText.f64FromParts.go, hn, h308', if_true, hpos, hmul, hfin]
  · obtain ⟨n, hn⟩ : ∃ n : Nat, E = -(n : Int) := ⟨(-E).toNat, by omega⟩
    subst hn
    have hn : (-(n : Int)).natAbs = n := by simp
    rw [hn] at hP hE
    have hdiv : F64.div (F64.ofNat S) (JsonText.pow10 n) =
        ofRatSigned false ((S : Rat) * JsonPrint.pow10 (-(n : Int))) := by
      rw [div_eq_ofRatSigned _ _ hS'.1 hP.1 (pow10_isZero hE), hS'.2, hP.2, ofNat_isNeg, pow10_isNeg,
        ← p10_natCast, div_p10]
      rfl
    have h308' : n ≤ 308 := by omega
    simp only [JsonText.f64FromParts, JsonText.f64FromParts.go, hn, h308', if_true, hpos, if_false, hdiv]

/-- **the number parser is correctly rounded on the exact domain**: significand at most `2^53`,
decimal exponent within `±22` -/
theorem f64FromParts_exact (positive : Bool) (S : Nat) (E : Int) (hS : S ≤ 2 ^ 53)
    (hE : E.natAbs ≤ 22) :
    JsonText.f64FromParts positive S E =
      some (if positive then ofRatSigned false ((S : Rat) * JsonPrint.pow10 E)
            else (ofRatSigned false ((S : Rat) * JsonPrint.pow10 E)).neg) :=
  f64FromParts_exact_of_repr positive S E (ofNat_exact S hS).2
    (Nat.le_trans hS (Nat.pow_le_pow_right (by decide) (by decide))) hE

/-- `f64FromParts_exact_of_repr` with the result written as `ofRat` (the value is non-negative) -/
theorem f64FromParts_exact_of_repr' (positive : Bool) (S : Nat) (E : Int)
    (hS : (F64.ofNat S).toRat = (S : Rat)) (hb : S ≤ 2 ^ 64) (hE : E.natAbs ≤ 22) :
    JsonText.f64FromParts positive S E =
      some (if positive then ofRat ((S : Rat) * JsonPrint.pow10 E)
            else (ofRat ((S : Rat) * JsonPrint.pow10 E)).neg) := by
  rw [f64FromParts_exact_of_repr positive S E hS hb hE,
    ofRat_of_nonneg (Rat.mul_nonneg Rat.natCast_nonneg (Rat.le_of_lt (p10_pos E)))]

/-- `f64FromParts_exact` with the result written as `ofRat` -/
theorem f64FromParts_exact' (positive : Bool) (S : Nat) (E : Int) (hS : S ≤ 2 ^ 53)
    (hE : E.natAbs ≤ 22) :
    JsonText.f64FromParts positive S E =
      some (if positive then ofRat ((S : Rat) * JsonPrint.pow10 E)
            else (ofRat ((S : Rat) * JsonPrint.pow10 E)).neg) := by
  rw [f64FromParts_exact positive S E hS hE,
    ofRat_of_nonneg (Rat.mul_nonneg Rat.natCast_nonneg (Rat.le_of_lt (p10_pos E)))]

end FloatExact
end JmesVerif

#print axioms JmesVerif.FloatExact.pow10_exact
#print axioms JmesVerif.FloatExact.f64FromParts_exact_of_repr
#print axioms JmesVerif.FloatExact.f64FromParts_exact
