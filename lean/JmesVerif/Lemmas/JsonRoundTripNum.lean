import JmesVerif.Model.JsonText
import JmesVerif.Model.JsonPrint
namespace JmesVerif
namespace JsonRT
open JsonText JsonPrint

theorem isDigit_iff (c : Char) : JsonText.isDigit c = true ↔ 48 ≤ c.toNat ∧ c.toNat ≤ 57 := by
  simp [JsonText.isDigit, Char.le_def, UInt32.le_iff_toNat_le]

theorem isDigit_eq_core (c : Char) : JsonText.isDigit c = c.isDigit := by
  simp [JsonText.isDigit, Char.isDigit, Char.le_def]

theorem one_le_iff (c : Char) : (decide ('1' ≤ c) && decide (c ≤ '9')) = true ↔ 49 ≤ c.toNat ∧ c.toNat ≤ 57 := by
  simp [Char.le_def, UInt32.le_iff_toNat_le]

/-- `rest` cannot continue a JSON number -/
def NumEnd (rest : List Char) : Prop :=
  ∀ c, rest.head? = some c →
    ¬ JsonText.isDigit c = true ∧ c ≠ '.' ∧ c ≠ 'e' ∧ c ≠ 'E' ∧ c ≠ '+' ∧ c ≠ '-'

theorem le_ofDigitChars (ds : List Char) (init : Nat) : init ≤ Nat.ofDigitChars 10 ds init := by
  rw [Nat.ofDigitChars_eq_ofDigitChars_zero]
  have : 1 ≤ 10 ^ ds.length := Nat.one_le_pow _ _ (by decide)
  have := Nat.mul_le_mul_right init this
  omega

/-- a step of `Nat.ofDigitChars` in the shape of the parser's accumulation `sig * 10 + dv` -/
theorem ofDigitChars_cons (d : Char) (ds : List Char) (s : Nat) :
    Nat.ofDigitChars 10 (d :: ds) s = Nat.ofDigitChars 10 ds (s * 10 + digitVal d) := by
  rw [Nat.ofDigitChars_cons, Nat.mul_comm]; rfl

/-- the accumulation loop of `parse_integer` reads a digit string whose value fits in u64 -/
theorem digits_loop (ds : List Char) : ∀ (sig : Nat) (rest : List Char),
    (∀ c ∈ ds, JsonText.isDigit c = true) → (∀ c, rest.head? = some c → ¬ JsonText.isDigit c = true) →
    Nat.ofDigitChars 10 ds sig ≤ U64_MAX →
    parseInteger.digits (ds ++ rest) sig = (Nat.ofDigitChars 10 ds sig, false, rest) := by
  induction ds with
  | nil =>
    intro sig rest _ hr _
    cases rest with
    | nil => simp [parseInteger.digits]
    | cons c cs =>
      have := hr c rfl
      simp [parseInteger.digits, this]
  | cons d ds ih =>
    intro sig rest hd hr hle
    have hdd : JsonText.isDigit d = true := hd d (by simp)
    rw [ofDigitChars_cons] at hle ⊢
    have h1 := le_ofDigitChars ds (sig * 10 + digitVal d)
    have h2 := (isDigit_iff d).1 hdd
    have hv2 : digitVal d = d.toNat - 48 := rfl
    simp only [List.cons_append, parseInteger.digits, hdd, if_true]
    rw [if_neg]
    · exact ih _ rest (fun c hc => hd c (by simp [hc])) hr hle
    · unfold U64_MAX at *
      omega

theorem isDigit_of_mem_toDigits {n : Nat} {c : Char} (h : c ∈ Nat.toDigits 10 n) :
    JsonText.isDigit c = true := by
  rw [isDigit_eq_core]; exact Nat.isDigit_of_mem_toDigits (by decide) (by decide) h

/-- no leading zero -/
theorem toDigits_head (n : Nat) : 0 < n →
    ∃ d0 ds, Nat.toDigits 10 n = d0 :: ds ∧ 49 ≤ d0.toNat ∧ d0.toNat ≤ 57 := by
  induction n using Nat.strongRecOn with
  | _ n ih =>
    intro hn
    rw [Nat.toDigits_eq_if (by decide)]
    split
    · rename_i h
      refine ⟨_, [], rfl, ?_⟩
      rw [Nat.toNat_digitChar_of_lt_ten h]; omega
    · obtain ⟨d0, ds, he, h1⟩ := ih (n / 10) (by omega) (by omega)
      exact ⟨d0, ds ++ [Nat.digitChar (n % 10)], by rw [he]; rfl, h1⟩

theorem parseNumberTail_end (positive : Bool) (n : Nat) (rest : List Char) (hr : NumEnd rest) :
    parseNumberTail positive n rest =
      if positive then some (.u n, rest)
      else if n = 0 ∨ n > 9223372036854775808 then some (.f (F64.ofNat n).neg, rest)
      else some (.i (-(n : Int)), rest) := by
  unfold parseNumberTail
  split
  · exact absurd rfl (hr _ rfl).2.1
  · exact absurd rfl (hr _ rfl).2.2.1
  · exact absurd rfl (hr _ rfl).2.2.2.1
  · rfl

/-- the decimal text of `n ≤ u64::MAX` is read back as the significand `n` -/
theorem parseInteger_toDigits (positive : Bool) (n : Nat) (hn : n ≤ U64_MAX) (rest : List Char)
    (hr : ∀ c, rest.head? = some c → ¬ JsonText.isDigit c = true) :
    parseInteger positive (Nat.toDigits 10 n ++ rest) = parseNumberTail positive n rest := by
  rcases Nat.eq_zero_or_pos n with rfl | hpos
  · cases rest with
    | nil => simp [parseInteger]
    | cons c cs =>
      have := hr c rfl
      simp [parseInteger, this]
  · obtain ⟨d0, ds, he, h1, h2⟩ := toDigits_head n hpos
    have hval : Nat.ofDigitChars 10 ds (digitVal d0) = n := by
      have := @Nat.ofDigitChars_ten_toDigits n
      rw [he, ofDigitChars_cons] at this
      simpa using this
    have hds : ∀ c ∈ ds, JsonText.isDigit c = true := fun c hc =>
      isDigit_of_mem_toDigits (n := n) (by rw [he]; simp [hc])
    have hloop := digits_loop ds (digitVal d0) rest hds hr (by rw [hval]; exact hn)
    rw [he, List.cons_append, parseInteger]
    · simp only [(one_le_iff d0).2 ⟨h1, h2⟩, if_true, hloop, hval]
      simp
    · intro h; rw [h] at h1; revert h1; decide

theorem toDigits_head_isDigit (n : Nat) :
    ∃ d0 ds, Nat.toDigits 10 n = d0 :: ds ∧ JsonText.isDigit d0 = true := by
  cases h : Nat.toDigits 10 n with
  | nil => exact absurd h Nat.toDigits_ne_nil
  | cons d ds => exact ⟨d, ds, rfl, isDigit_of_mem_toDigits (n := n) (by rw [h]; simp)⟩

theorem skipWs_cons_of_not_ws {c : Char} (h : isWs c = false) (cs : List Char) : skipWs (c :: cs) = c :: cs := by
  simp [skipWs, h]

theorem isWs_of_isDigit {c : Char} (h : JsonText.isDigit c = true) : isWs c = false := by
  have := (isDigit_iff c).1 h
  simp only [isWs, Bool.or_eq_false_iff, decide_eq_false_iff_not]
  refine ⟨⟨⟨?_, ?_⟩, ?_⟩, ?_⟩ <;> (intro h; rw [h] at this; revert this; decide)

/-- a value starting with a digit is a number -/
theorem parseValue_digit (fuel depth : Nat) (c : Char) (r : List Char) (h : JsonText.isDigit c = true) :
    parseValue (fuel + 1) depth (c :: r) = (parseInteger true (c :: r)).map fun (n, r) => (numVal n, r) := by
  rw [parseValue, skipWs_cons_of_not_ws (isWs_of_isDigit h)]
  split
  case h_8 heq => cases heq; simp [h]
  case h_9 heq => cases heq
  -- the characters that open the other kinds of value are not digits
  all_goals (rename_i heq; cases heq; exact absurd h (by decide))

theorem parseValue_pos (fuel depth n : Nat) (hn : n < 2 ^ 64) (rest : List Char) (hr : NumEnd rest) :
    parseValue (fuel + 1) depth ((toString n).toList ++ rest) = some (.num (.pos n), rest) := by
  rw [Nat.toString_eq_repr, Nat.toList_repr]
  obtain ⟨d0, ds, he, hd⟩ := toDigits_head_isDigit n
  have h1 := parseInteger_toDigits true n (by unfold U64_MAX; omega) rest (fun c hc => (hr c hc).1)
  rw [he] at h1 ⊢
  rw [List.cons_append, parseValue_digit _ _ _ _ hd, ← List.cons_append, h1, parseNumberTail_end _ _ _ hr]
  simp [numVal]

theorem skipWs_minus (cs : List Char) : skipWs ('-' :: cs) = '-' :: cs := by
  simp [skipWs, isWs]

theorem parseValue_neg (fuel depth : Nat) (i : Int) (h1 : -(2 ^ 63 : Int) ≤ i) (h2 : i < 0) (rest : List Char)
    (hr : NumEnd rest) :
    parseValue (fuel + 1) depth ((toString i).toList ++ rest) = some (.num (.neg i), rest) := by
  rw [Int.toString_eq_repr, Int.repr_eq_if, if_neg (by omega), String.toList_append, Nat.toList_repr]
  have h3 := parseInteger_toDigits false (-i).toNat (by unfold U64_MAX; omega) rest (fun c hc => (hr c hc).1)
  have h4 : "-".toList = ['-'] := rfl
  rw [h4, List.append_assoc, List.singleton_append, parseValue, skipWs_minus]
  simp only
  rw [h3, parseNumberTail_end _ _ _ hr]
  simp only [Bool.false_eq_true, if_false]
  rw [if_neg (by omega)]
  simp only [Option.map_some, numVal]
  have : -((-i).toNat : Int) = i := by omega
  rw [this]

end JsonRT
end JmesVerif
