import JmesVerif.Lemmas.ParserCompleteBase
/-! Completeness (T2), part 2: the induction steps for every parser function except `nud`/`led`. -/
namespace JmesVerif
open Parser

theorem idxLoop_slice (h : SliceHdr) (ts : List PT) (r0 : List Tok) (off : Nat)
    (hy : tk ts = h.toks ++ .rbracket :: r0) :
    ∃ ts' off', idxLoop 8 ts off none none none 0 = .ok (.slice h, ts', off') ∧ tk ts' = r0 := by
  obtain ⟨a, b, c⟩ := h
  rcases a with _ | a <;> rcases b with _ | b <;> rcases c with _ | _ | c <;>
    simp only [SliceHdr.toks, optNumToks, List.nil_append, List.cons_append, List.append_nil] at hy <;>
    (repeat (replace hy := tk_cons_inv hy; obtain ⟨_, _, rfl, hy⟩ := hy)) <;>
    exact ⟨_, _, rfl, hy⟩

theorem idxLoop_idx (n : Int) (ts : List PT) (r0 : List Tok) (off : Nat)
    (hy : tk ts = .number n :: .rbracket :: r0) :
    ∃ ts' off', idxLoop 8 ts off none none none 0 = .ok (.idx n, ts', off') ∧ tk ts' = r0 := by
  obtain ⟨_, _, rfl, h1⟩ := tk_cons_inv hy
  obtain ⟨_, _, rfl, h2⟩ := tk_cons_inv h1
  exact ⟨_, _, rfl, h2⟩

theorem wildcardValues_complete (m : Nat) (hm : Comp m) (r : Rhs) (lhs : Ast) (ts : List PT) (r0 : List Tok) (off : Nat)
    (hsz : r.size ≤ m) (hl : r.Legal 20) (hy : tk ts = r.toks ++ r0) (h2 : (peekL r0).lbp ≤ r.follow 20) :
    ∃ a ts' off', Parser.wildcardValues (m+1) lhs ts off = .ok ((r, a), ts', off') ∧ tk ts' = r0 := by
  obtain ⟨a, ts', off', hp, htk⟩ := hm.rhs r 20 ts r0 off hsz hl (by omega) hy h2
  simp only [Parser.wildcardValues, hp]
  exact ⟨_, _, _, rfl, htk⟩

theorem parseFlatten_complete (m : Nat) (hm : Comp m) (r : Rhs) (lhs : Ast) (ts : List PT) (r0 : List Tok) (off : Nat)
    (hsz : r.size ≤ m) (hl : r.Legal 9) (hy : tk ts = r.toks ++ r0) (h2 : (peekL r0).lbp ≤ r.follow 9) :
    ∃ a ts' off', Parser.parseFlatten (m+1) lhs ts off = .ok ((r, a), ts', off') ∧ tk ts' = r0 := by
  obtain ⟨a, ts', off', hp, htk⟩ := hm.rhs r 9 ts r0 off hsz hl (by omega) hy h2
  simp only [Parser.parseFlatten, hp]
  exact ⟨_, _, _, rfl, htk⟩

theorem wildcardIndex_complete (m : Nat) (hm : Comp m) (r : Rhs) (lhs : Ast) (ts : List PT) (r0 : List Tok) (off : Nat)
    (hsz : r.size ≤ m) (hl : r.Legal 20) (hy : tk ts = .rbracket :: (r.toks ++ r0))
    (h2 : (peekL r0).lbp ≤ r.follow 20) :
    ∃ a ts' off', Parser.wildcardIndex (m+1) lhs ts off = .ok ((r, a), ts', off') ∧ tk ts' = r0 := by
  obtain ⟨p, ts₁, rfl, hy1⟩ := tk_cons_inv hy
  obtain ⟨a, ts', off', hp, htk⟩ := hm.rhs r 20 ts₁ r0 p hsz hl (by omega) hy1 h2
  simp only [Parser.wildcardIndex, hp]
  exact ⟨_, _, _, rfl, htk⟩

theorem parseFilter_complete (m : Nat) (hm : Comp m) (pe : Expr) (r : Rhs) (lhs : Ast) (ts : List PT) (r0 : List Tok)
    (off : Nat) (hsz1 : pe.size ≤ m) (hsz : r.size ≤ m) (hl1 : pe.Legal 0) (hl : r.Legal 21)
    (hy : tk ts = pe.toks ++ .rbracket :: (r.toks ++ r0)) (h2 : (peekL r0).lbp ≤ r.follow 21) :
    ∃ a ts' off', Parser.parseFilter (m+1) lhs ts off = .ok ((pe, r, a), ts', off') ∧ tk ts' = r0 := by
  obtain ⟨a1, ts1, off1, hp1, htk1, _⟩ := hm.expr pe 0 ts (.rbracket :: (r.toks ++ r0)) off hsz1 hl1 (by omega) hy
    (by simp [Tok.lbp]) (by simp [Tok.lbp])
  obtain ⟨p, ts₁, rfl, hy1⟩ := tk_cons_inv htk1
  obtain ⟨a, ts', off', hp, htk⟩ := hm.rhs r 21 ts₁ r0 p hsz hl (by omega) hy1 h2
  simp only [Parser.parseFilter, hp1, hp]
  exact ⟨_, _, _, rfl, htk⟩

theorem parseIndex_idx (m : Nat) (n : Int) (ts : List PT) (r0 : List Tok) (off : Nat)
    (hy : tk ts = .number n :: .rbracket :: r0) :
    ∃ a ts' off', Parser.parseIndex (m+1) ts off = .ok ((.inl n, a), ts', off') ∧ tk ts' = r0 := by
  obtain ⟨ts', off', hp, htk⟩ := idxLoop_idx n ts r0 off hy
  simp only [Parser.parseIndex, hp]
  exact ⟨_, _, _, rfl, htk⟩

theorem parseIndex_slice (m : Nat) (hm : Comp m) (h : SliceHdr) (r : Rhs) (ts : List PT) (r0 : List Tok) (off : Nat)
    (hsz : r.size ≤ m) (hl : r.Legal 20) (hy : tk ts = h.toks ++ .rbracket :: (r.toks ++ r0))
    (h2 : (peekL r0).lbp ≤ r.follow 20) :
    ∃ a ts' off', Parser.parseIndex (m+1) ts off = .ok ((.inr (h, r), a), ts', off') ∧ tk ts' = r0 := by
  obtain ⟨ts1, off1, hp1, htk1⟩ := idxLoop_slice h ts (r.toks ++ r0) off hy
  obtain ⟨a, ts', off', hp, htk⟩ := hm.rhs r 20 ts1 r0 off1 hsz hl (by omega) htk1 h2
  simp only [Parser.parseIndex, hp1, hp]
  exact ⟨_, _, _, rfl, htk⟩

theorem isClosing_closeTok (paren : Bool) : isClosing paren (closeTok_m paren) = true := by
  cases paren <;> simp [isClosing, closeTok_m]

theorem isClosing_nudStart (paren : Bool) (t : Tok) (h : t.nudStart = true) : isClosing paren t = false := by
  cases t <;> simp_all [isClosing, Tok.nudStart]

theorem multiList_complete (m : Nat) (hm : Comp m) (e : Expr) (es : List Expr) (ts : List PT) (r0 : List Tok)
    (off : Nat) (hsz : argsSize (e :: es) ≤ m) (hl : argsLegal (e :: es))
    (hy : tk ts = argsToks (e :: es) ++ .rbracket :: r0) :
    ∃ a ts' off', Parser.multiList (m+1) ts off = .ok ((e :: es, a), ts', off') ∧ tk ts' = r0 := by
  obtain ⟨as, ts', off', hp, htk⟩ := hm.args e es false ts r0 off [] [] hsz hl (by simpa [closeTok_m] using hy)
  simp only [List.nil_append] at hp
  simp only [Parser.multiList, hp, List.isEmpty_cons, Bool.false_eq_true, if_false]
  exact ⟨_, _, _, rfl, htk⟩

theorem comp_rhs (n : Nat) (ih : ∀ m, m < n → Comp m) (r : Rhs) (k : Nat) (ts : List PT) (r0 : List Tok) (off : Nat)
    (hsz : r.size ≤ n) (hl : r.Legal k) (hk : k < 60) (hy : tk ts = r.toks ++ r0)
    (h2 : (peekL r0).lbp ≤ r.follow k) :
    ∃ a ts' off', Parser.projRhs n k ts off = .ok ((r, a), ts', off') ∧ tk ts' = r0 := by
  cases n with
  | zero => cases r <;> simp [Rhs.size] at hsz
  | succ f =>
  cases r with
  | none =>
    simp only [Rhs.toks, List.nil_append] at hy
    simp only [Rhs.follow] at h2
    rw [← hy, ← peekT_eq_peekL] at h2
    rw [Parser.projRhs.eq_5]
    · rw [if_pos (by simp [projectionStop]; omega)]
      exact ⟨_, _, _, rfl, hy⟩
    · intro p r h; subst h; simp [peekT, Tok.lbp] at h2
    · intro p r h; subst h; simp [peekT, Tok.lbp] at h2
    · intro p r h; subst h; simp [peekT, Tok.lbp] at h2
  | dot d =>
    simp only [Rhs.toks, Rhs.size, Rhs.Legal, Rhs.follow, List.cons_append] at hy hsz hl h2
    obtain ⟨p, ts₁, rfl, hy1⟩ := tk_cons_inv hy
    obtain ⟨a, ts', off', hd, htk⟩ := (ih f (by omega)).dot d k ts₁ r0 p (by omega) hl hk hy1 h2
    simp only [Parser.projRhs, hd]
    exact ⟨_, _, _, rfl, htk⟩
  | bracket e =>
    simp only [Rhs.toks, Rhs.size, Rhs.Legal, Rhs.follow] at hy hsz hl h2
    obtain ⟨a, ts', off', he, htk, _⟩ := (ih f (by omega)).expr e k ts r0 off (by omega) hl.1 hk hy (by omega) (by omega)
    obtain ⟨h, ls⟩ := e
    have hb := hl.2
    simp only [Expr.headIsBracket] at hb
    simp only [Expr.toks, List.append_assoc] at hy
    cases h <;> simp [Nud.isBracketHead] at hb <;>
      simp only [Nud.toks, List.cons_append] at hy <;>
      obtain ⟨p, ts₁, rfl, hy1⟩ := tk_cons_inv hy <;>
      simp only [Parser.projRhs, he] <;>
      exact ⟨_, _, _, rfl, htk⟩

theorem comp_dot (n : Nat) (ih : ∀ m, m < n → Comp m) (d : DotRhs) (k : Nat) (ts : List PT) (r0 : List Tok) (off : Nat)
    (hsz : d.size ≤ n) (hl : d.Legal k) (hk : k < 60) (hy : tk ts = d.toks ++ r0)
    (h2 : (peekL r0).lbp ≤ d.follow k) :
    ∃ a ts' off', Parser.parseDot n k ts off = .ok ((d, a), ts', off') ∧ tk ts' = r0 := by
  cases n with
  | zero => cases d <;> simp [DotRhs.size] at hsz
  | succ f =>
  cases d with
  | mlist es =>
    simp only [DotRhs.toks, DotRhs.size, DotRhs.Legal, List.cons_append, List.append_assoc] at hy hsz hl
    obtain ⟨p, ts₁, rfl, hy1⟩ := tk_cons_inv hy
    cases f with
    | zero => omega
    | succ f' =>
    cases es with
    | nil => simp at hl
    | cons e es =>
    obtain ⟨as, ts', off', hp, htk⟩ := multiList_complete f' (ih f' (by omega)) e es ts₁ r0 p (by omega) hl.2
      (by simpa using hy1)
    simp only [Parser.parseDot, hp]
    exact ⟨_, _, _, rfl, htk⟩
  | expr e =>
    simp only [DotRhs.toks, DotRhs.size, DotRhs.Legal, DotRhs.follow] at hy hsz hl h2
    obtain ⟨a, ts', off', he, htk, _⟩ := (ih f (by omega)).expr e k ts r0 off (by omega) hl.1 hk hy (by omega) (by omega)
    obtain ⟨h, ls⟩ := e
    have hb := hl.2
    simp only [Expr.headIsDot] at hb
    simp only [Expr.toks, List.append_assoc] at hy
    cases h <;> simp [Nud.isDotHead] at hb <;>
      simp only [Nud.toks, List.cons_append] at hy <;>
      obtain ⟨p, ts₁, rfl, hy1⟩ := tk_cons_inv hy <;>
      simp only [Parser.parseDot, he] <;>
      exact ⟨_, _, _, rfl, htk⟩

theorem closeTok_lbp (paren : Bool) : (closeTok_m paren).lbp = 0 := by cases paren <;> simp [closeTok_m, Tok.lbp]

theorem comp_args (n : Nat) (ih : ∀ m, m < n → Comp m) (e : Expr) (es : List Expr) (paren : Bool) (ts : List PT)
    (r0 : List Tok) (off : Nat) (acc : List Expr) (aacc : List Ast)
    (hsz : argsSize (e :: es) ≤ n) (hl : argsLegal (e :: es))
    (hy : tk ts = argsToks (e :: es) ++ closeTok_m paren :: r0) :
    ∃ as ts' off', Parser.parseList n paren ts off acc aacc = .ok ((acc ++ e :: es, as), ts', off') ∧
      tk ts' = r0 := by
  cases n with
  | zero => simp [argsSize] at hsz
  | succ f =>
  simp only [argsSize, argsLegal, argsToks, List.append_assoc] at hsz hl hy
  obtain ⟨a, ts', off', he, htk, _⟩ := (ih f (by omega)).expr e 0 ts (argsTail es ++ closeTok_m paren :: r0) off (by omega)
    hl.1 (by omega) hy
    (by cases es <;> cases paren <;> simp [argsTail, closeTok_m, Tok.lbp])
    (by cases es <;> cases paren <;> simp [argsTail, closeTok_m, Tok.lbp])
  obtain ⟨t, rest, ht1, ht2⟩ := e.toks_first
  rw [ht1, List.cons_append] at hy
  obtain ⟨p, ts₁, rfl, hy1⟩ := tk_cons_inv hy
  rw [Parser.parseList.eq_2, isClosing_nudStart _ _ ht2]
  simp only [Bool.false_eq_true, if_false, he]
  cases es with
  | nil =>
    simp only [argsTail, List.nil_append] at htk
    obtain ⟨p2, ts₂, rfl, hy2⟩ := tk_cons_inv htk
    cases paren <;> simp only [closeTok_m, isClosing, if_true, Bool.not_false, Bool.false_eq_true, if_false] <;>
      exact ⟨_, _, _, rfl, hy2⟩
  | cons e' es' =>
    simp only [argsTail, List.cons_append, List.append_assoc] at htk
    obtain ⟨p2, ts₂, rfl, hy2⟩ := tk_cons_inv htk
    obtain ⟨t', rest', ht1', ht2'⟩ := e'.toks_first
    have hpk : isClosing paren (peekT ts₂) = false := by
      rw [peekT_eq_peekL, hy2, ht1']; exact isClosing_nudStart _ _ ht2'
    simp only [hpk, Bool.false_eq_true, if_false]
    obtain ⟨as, ts3, off3, hp, htk3⟩ := (ih f (by omega)).args e' es' paren ts₂ r0 p2 (acc ++ [e]) (aacc ++ [a])
      (by simp only [argsSize] at hsz ⊢; omega) hl.2 (by simpa [argsToks] using hy2)
    simp only [List.append_assoc, List.cons_append, List.nil_append] at hp
    exact ⟨_, _, _, hp, htk3⟩

theorem comp_kvs (n : Nat) (ih : ∀ m, m < n → Comp m) (kv : Bool × String × Expr) (kvs : List (Bool × String × Expr))
    (ts : List PT) (r0 : List Tok) (off : Nat) (acc : List (Bool × String × Expr)) (aacc : List (String × Ast))
    (hsz : kvsSize (kv :: kvs) ≤ n) (hl : kvsLegal (kv :: kvs))
    (hy : tk ts = kvsToks (kv :: kvs) ++ .rbrace :: r0) :
    ∃ as ts' off', Parser.kvps n ts off acc aacc = .ok ((acc ++ kv :: kvs, as), ts', off') ∧
      tk ts' = r0 := by
  cases n with
  | zero => obtain ⟨q, s, e⟩ := kv; simp [kvsSize] at hsz
  | succ f =>
  obtain ⟨q, s, e⟩ := kv
  simp only [kvsSize, kvsLegal, kvsToks, List.cons_append, List.append_assoc] at hsz hl hy
  obtain ⟨p, ts₁, rfl, hy1⟩ := tk_cons_inv hy
  obtain ⟨p2, ts₂, rfl, hy2⟩ := tk_cons_inv hy1
  obtain ⟨a, ts', off', he, htk, _⟩ := (ih f (by omega)).expr e 0 ts₂ (kvsTail kvs ++ .rbrace :: r0) p2 (by omega)
    hl.1 (by omega) hy2
    (by cases kvs <;> simp [kvsTail, Tok.lbp])
    (by cases kvs <;> simp [kvsTail, Tok.lbp])
  cases kvs with
  | nil =>
    simp only [kvsTail, List.nil_append] at htk
    obtain ⟨p3, ts₃, rfl, hy3⟩ := tk_cons_inv htk
    cases q <;> simp only [keyTok, Parser.kvps, he, if_true, Bool.false_eq_true, if_false] <;>
      exact ⟨_, _, _, rfl, hy3⟩
  | cons kv' kvs' =>
    obtain ⟨q', s', e'⟩ := kv'
    simp only [kvsTail, List.cons_append, List.append_assoc] at htk
    obtain ⟨p3, ts₃, rfl, hy3⟩ := tk_cons_inv htk
    cases q
    all_goals
      obtain ⟨as, ts4, off4, hp, htk4⟩ := (ih f (by omega)).kvs (q', s', e') kvs' ts₃ r0 p3 (acc ++ [(_, s, e)]) (aacc ++ [(s, a)])
        (by simp only [kvsSize] at hsz ⊢; omega) hl.2 (by simpa [kvsToks] using hy3)
      simp only [List.append_assoc, List.cons_append, List.nil_append] at hp
      simp only [keyTok, Parser.kvps, he, if_true, Bool.false_eq_true, if_false]
      exact ⟨_, _, _, hp, htk4⟩

theorem noCallDev_cdOk {ls : List Led} (h : Nud) (left : Ast) (hn : noCallDev ls) : cdOk h left ls := by
  cases ls with
  | nil => trivial
  | cons l ls =>
    refine ⟨fun hc => ?_, fun l' hl' => hn l' (List.mem_cons_of_mem _ hl')⟩
    have := hn l (List.mem_cons_self ..)
    simp [this] at hc

/-- `parseList` on a possibly empty list -/
theorem parseList_any (m : Nat) (hm : Comp m) (es : List Expr) (paren : Bool) (ts : List PT) (r0 : List Tok)
    (off : Nat) (acc : List Expr) (aacc : List Ast)
    (hsz : argsSize es ≤ m) (hl : argsLegal es) (hy : tk ts = argsToks es ++ closeTok_m paren :: r0) :
    ∃ as ts' off', Parser.parseList m paren ts off acc aacc = .ok ((acc ++ es, as), ts', off') ∧
      tk ts' = r0 := by
  cases es with
  | cons e es => exact hm.args e es paren ts r0 off acc aacc hsz hl hy
  | nil =>
    cases m with
    | zero => simp [argsSize] at hsz
    | succ f =>
      simp only [argsToks, List.nil_append] at hy
      obtain ⟨p, ts₁, rfl, hy1⟩ := tk_cons_inv hy
      simp only [Parser.parseList, isClosing_closeTok, if_true]
      exact ⟨_, _, _, by rw [List.append_nil], hy1⟩

theorem comp_loop (n : Nat) (ih : ∀ m, m < n → Comp m) (ls : List Led) (rbp fo : Nat) (h : Nud) (acc : List Led) (left : Ast) (ts : List PT)
    (r0 : List Tok) (off : Nat)
    (hsz : ledsSize ls ≤ n) (hc : chain rbp fo ls) (hcd : cdOk h left ls) (hy : tk ts = ledsToks ls ++ r0)
    (h1 : (peekL r0).lbp ≤ rbp) (h2 : (peekL r0).lbp ≤ ledsFollow fo ls) :
    ∃ a ts' off', Parser.loop n rbp h acc left ts off = .ok ((.mk h (acc ++ ls), a), ts', off') ∧
      tk ts' = r0 ∧ (ls = [] → a = left) := by
  cases n with
  | zero => cases ls <;> simp [ledsSize] at hsz
  | succ f =>
  cases ls with
  | nil =>
    simp only [ledsToks, List.nil_append] at hy
    have : ¬ rbp < (peekT ts).lbp := by rw [peekT_eq_peekL, hy]; omega
    rw [Parser.loop.eq_def]
    simp only [this, if_false]
    exact ⟨left, ts, off, by rw [List.append_nil], hy, fun _ => rfl⟩
  | cons l ls =>
    simp only [chain, ledsFollow, ledsSize, ledsToks, List.append_assoc] at hc h2 hsz hy
    obtain ⟨hc1, hc2, hc3, hc4⟩ := hc
    have hlt : rbp < (peekT ts).lbp := by rw [peekT_eq_peekL, hy, peek_led]; exact hc1
    by_cases hcall : l.isCallDev = true
    · cases l <;> simp [Led.isCallDev] at hcall
      rename_i args
      obtain ⟨hp, o, nm, rfl⟩ := hcd.1 rfl
      simp only [Led.toks, Led.size, Led.Legal, List.cons_append, List.append_assoc,
        List.nil_append] at hy hsz hc3
      obtain ⟨p, ts₁, rfl, hy1⟩ := tk_cons_inv hy
      cases f with
      | zero => omega
      | succ f' =>
      obtain ⟨as, ts', off', hpl, htk⟩ := parseList_any (f'+1) (ih _ (by omega)) args true ts₁ (ledsToks ls ++ r0) p [] []
        (by omega) hc3 (by simpa [closeTok_m] using hy1)
      obtain ⟨a2, ts2, off2, hl2, htk2, _⟩ := (ih (f'+1) (by omega)).loop ls rbp (Led.callDev args).follow h
        (acc ++ [.callDev args]) (Ast.function p nm as) ts' r0 off' (by omega) hc4
        (noCallDev_cdOk _ _ hcd.2) htk h1 h2
      rw [Parser.loop.eq_2, if_pos hlt]
      simp only [hpl, List.nil_append]
      cases h <;> simp [Nud.isParen] at hp
      simp only [List.append_assoc, List.cons_append, List.nil_append] at hl2
      exact ⟨_, _, _, hl2, htk2, by simp⟩
    · have hcall : l.isCallDev = false := by simpa using hcall
      obtain ⟨t, rest, ht1, ht2, ht3, ht4⟩ := l.toks_first
      have hne : ∀ (p : Nat) (r : List PT), ts = (p, Tok.lparen) :: r → False := by
        intro p r hts
        rw [hts, ht1] at hy
        simp at hy
        have := ht3 hy.1.symm
        simp [hcall] at this
      obtain ⟨a, ts', off', hl, htk⟩ := (ih f (by omega)).led l left ts (ledsToks ls ++ r0) off (by omega) hc3 hcall hy
        (stop_leds _ _ _ _ hc4 h2)
      obtain ⟨a2, ts2, off2, hl2, htk2, _⟩ := (ih f (by omega)).loop ls rbp l.follow h (acc ++ [l]) a ts' r0 off' (by omega) hc4
        (noCallDev_cdOk _ _ hcd.2) htk h1 h2
      rw [Parser.loop.eq_4 _ _ _ _ _ _ _ hne, if_pos hlt, hl]
      simp only [List.append_assoc, List.cons_append, List.nil_append] at hl2
      exact ⟨_, _, _, hl2, htk2, by simp⟩

theorem isField_inv {h : Nud} {ls : List Led} (hf : (Expr.mk h ls).isField = true) : ls = [] := by
  cases ls with
  | nil => rfl
  | cons l ls => cases h <;> simp [Expr.isField] at hf

theorem cdOk_of_callDevOk {h : Nud} {ls : List Led} {left : Ast} (hc : callDevOk h ls)
    (hf : (Expr.mk h []).isField = true → IsFieldAst left) : cdOk h left ls := by
  cases ls with
  | nil => trivial
  | cons l ls =>
    simp only [callDevOk] at hc
    refine ⟨fun hcd => ?_, hc.2⟩
    have := hc.1 hcd
    cases h <;> simp at this
    exact ⟨rfl, hf (by simpa [Expr.isField] using this)⟩

theorem comp_expr (n : Nat) (ih : ∀ m, m < n → Comp m) (e : Expr) (rbp : Nat) (ts : List PT) (r0 : List Tok) (off : Nat)
    (hsz : e.size ≤ n) (hl : e.Legal rbp) (hr : rbp < 60) (hy : tk ts = e.toks ++ r0)
    (h1 : (peekL r0).lbp ≤ rbp) (h2 : (peekL r0).lbp ≤ e.follow) :
    ∃ a ts' off', Parser.expr n rbp ts off = .ok ((e, a), ts', off') ∧ tk ts' = r0 ∧
      (e.isField = true → IsFieldAst a) := by
  obtain ⟨h, ls⟩ := e
  simp only [Expr.size, Expr.Legal, Expr.follow, Expr.toks, List.append_assoc] at hsz hl h2 hy
  obtain ⟨hl1, hl2, hl3⟩ := hl
  cases n with
  | zero => omega
  | succ f =>
  by_cases hcall : h.isCall = true
  · cases h <;> simp [Nud.isCall] at hcall
    rename_i s args
    simp only [Nud.toks, Nud.size, Nud.Legal, List.cons_append, List.append_assoc,
      List.nil_append] at hy hsz hl1
    obtain ⟨p, ts₁, rfl, hy1⟩ := tk_cons_inv hy
    obtain ⟨p2, ts₂, rfl, hy2⟩ := tk_cons_inv hy1
    cases f with
    | zero => omega
    | succ f' =>
    cases f' with
    | zero => omega
    | succ f'' =>
    obtain ⟨as, ts', off', hpl, htk⟩ := parseList_any (f''+1) (ih _ (by omega)) args true ts₂ (ledsToks ls ++ r0) p2 [] []
      (by omega) hl1 (by simpa [closeTok_m] using hy2)
    obtain ⟨a2, ts2, off2, hl2, htk2, _⟩ := (ih (f''+1) (by omega)).loop ls rbp (Nud.call s args).follow (Nud.call s args)
      [] (Ast.function p2 s as) ts' r0 off' (by omega) hl2
      (cdOk_of_callDevOk hl3 (by simp [Expr.isField])) htk h1 h2
    simp only [Parser.expr, Parser.nud]
    rw [Parser.loop.eq_2, if_pos (by simpa [peekT, Tok.lbp] using hr)]
    simp only [hpl, List.nil_append]
    exact ⟨_, _, _, hl2, htk2, by simp [Expr.isField]⟩
  · have hcall : h.isCall = false := by simpa using hcall
    obtain ⟨a, ts', off', hn, htk, hfa⟩ := (ih f (by omega)).nud h ts (ledsToks ls ++ r0) off (by omega) hl1 hcall hy
      (stop_leds _ _ _ _ hl2 h2) (by
        intro hq
        cases ls with
        | nil =>
          simp only [ledsToks, List.nil_append]
          intro hp; rw [hp] at h1; simp [Tok.lbp] at h1; omega
        | cons l ls =>
          obtain ⟨t, rest, ht1, ht2, ht3, ht4⟩ := l.toks_first
          simp only [ledsToks, ht1, List.cons_append, peekL_cons]
          intro hp
          have := hl3.1 (ht3 hp)
          cases h <;> simp [Nud.isQfield] at hq
          simp at this)
    obtain ⟨a2, ts2, off2, hl2, htk2, hla⟩ := (ih f (by omega)).loop ls rbp h.follow h [] a ts' r0 off' (by omega) hl2
      (cdOk_of_callDevOk hl3 hfa) htk h1 h2
    simp only [Parser.expr, hn]
    refine ⟨_, _, _, hl2, htk2, fun hf => ?_⟩
    have := isField_inv hf
    subst this
    rw [hla rfl]; exact hfa hf

end JmesVerif
