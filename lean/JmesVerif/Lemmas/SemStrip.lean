import JmesVerif.Spec.Sem
import JmesVerif.Model.Interp
/-
Offsets do not matter for trees without function calls and expression references: evaluating `a`
and `a.strip` gives the same outcome, except that an invalid-slice error may carry a different
offset.  Core C01 (`Lemmas/SemConform.lean`) uses this to pass from `e.ast` to any tree with the same
`strip`; with calls it fails, and the full language quantifies over such trees from the start
(`CIF` and the `strip_inv_*` lemmas, `Lemmas/SemFullBase.lean`).
-/
namespace JmesVerif

/-- same outcome up to the offset recorded in an invalid-slice error -/
def SameRes {α : Type} (r1 r2 : ERes α) : Prop :=
  r1 = r2 ∨ ∃ o1 o2, r1 = .error (.runtime .invalidSlice o1) ∧ r2 = .error (.runtime .invalidSlice o2)

theorem SameRes.rfl' {α : Type} (r : ERes α) : SameRes r r := Or.inl rfl

mutual
/-- no function call and no expression reference node -/
def Ast.plain : Ast → Bool
  | .function _ _ _ => false
  | .expref _ _ => false
  | .comparison _ _ l r => l.plain && r.plain
  | .condition _ p t => p.plain && t.plain
  | .flatten _ a => a.plain
  | .multiList _ es => plainList es
  | .multiHash _ kvs => plainKVs kvs
  | .not _ a => a.plain
  | .projection _ l r => l.plain && r.plain
  | .objectValues _ a => a.plain
  | .and _ l r => l.plain && r.plain
  | .or _ l r => l.plain && r.plain
  | .subexpr _ l r => l.plain && r.plain
  | _ => true
def plainList : List Ast → Bool
  | [] => true
  | a :: as => a.plain && plainList as
def plainKVs : List (String × Ast) → Bool
  | [] => true
  | (_, a) :: r => a.plain && plainKVs r
end

def StripInv (rt : Registry) (fuel : Nat) : Prop :=
  (∀ a d off, a.strip.plain = true → SameRes (interp rt fuel d a off) (interp rt fuel d a.strip off)) ∧
  (∀ xs a off, a.strip.plain = true →
      SameRes (projectEach rt fuel xs a off) (projectEach rt fuel xs a.strip off)) ∧
  (∀ d es off, plainList (stripList es) = true →
      SameRes (interpAll rt fuel d es off) (interpAll rt fuel d (stripList es) off)) ∧
  (∀ d kvs acc off, plainKVs (stripKVs kvs) = true →
      SameRes (interpKVs rt fuel d kvs acc off) (interpKVs rt fuel d (stripKVs kvs) acc off))

/-- finish with an induction hypothesis in tail position -/
local macro "sameclose " t:term : tactic =>
  `(tactic| (obtain h | ⟨o1, o2, h1, h2⟩ := $t; (rw [h]; exact Or.inl rfl); (rw [h1, h2]; exact Or.inr ⟨_, _, rfl, rfl⟩)))

/-- use an induction hypothesis for the first evaluation, leaving the equal-results case -/
local macro "samefirst " t:term : tactic =>
  `(tactic| (obtain h | ⟨o1, o2, h1, h2⟩ := $t; rotate_left; (rw [h1, h2]; exact Or.inr ⟨_, _, rfl, rfl⟩); rw [h]))

theorem strip_same (rt : Registry) : ∀ fuel, StripInv rt fuel := by
  intro fuel
  induction fuel with
  | zero =>
    refine ⟨?_, ?_, ?_, ?_⟩ <;> intros <;> simp only [interp, projectEach, interpAll, interpKVs] <;>
      exact Or.inl rfl
  | succ fuel ih =>
    obtain ⟨ih1, ih2, ih3, ih4⟩ := ih
    refine ⟨?_, ?_, ?_, ?_⟩
    · intro a d off hp
      cases a with
      | comparison o c l r =>
        simp only [Ast.strip, Ast.plain, Bool.and_eq_true] at hp
        simp only [interp, Ast.strip]
        samefirst (ih1 l d off hp.1)
        generalize interp rt fuel d l.strip off = res
        rcases res with e | ⟨v, off'⟩
        · exact Or.inl rfl
        · simp only []
          sameclose (ih1 r d off' hp.2)
      | condition o p t =>
        simp only [Ast.strip, Ast.plain, Bool.and_eq_true] at hp
        simp only [interp, Ast.strip]
        samefirst (ih1 p d off hp.1)
        generalize interp rt fuel d p.strip off = res
        rcases res with e | ⟨v, off'⟩
        · exact Or.inl rfl
        · simp only []
          split
          · sameclose (ih1 t d off' hp.2)
          · exact Or.inl rfl
      | identity o => simp only [interp, Ast.strip]; exact Or.inl rfl
      | expref o a => simp [Ast.strip, Ast.plain] at hp
      | flatten o a =>
        simp only [Ast.strip, Ast.plain] at hp
        simp only [interp, Ast.strip]
        samefirst (ih1 a d off hp)
        exact Or.inl rfl
      | function o n args => simp [Ast.strip, Ast.plain] at hp
      | field o n => simp only [interp, Ast.strip]; exact Or.inl rfl
      | index o i => cases d <;> simp only [interp, Ast.strip] <;> exact Or.inl rfl
      | literal o v => simp only [interp, Ast.strip]; exact Or.inl rfl
      | multiList o es =>
        simp only [Ast.strip, Ast.plain] at hp
        simp only [interp, Ast.strip]
        split
        · exact Or.inl rfl
        · sameclose (ih3 d es off hp)
      | multiHash o kvs =>
        simp only [Ast.strip, Ast.plain] at hp
        simp only [interp, Ast.strip]
        split
        · exact Or.inl rfl
        · sameclose (ih4 d kvs [] off hp)
      | not o a =>
        simp only [Ast.strip, Ast.plain] at hp
        simp only [interp, Ast.strip]
        sameclose (ih1 a d off hp)
      | projection o l r =>
        simp only [Ast.strip, Ast.plain, Bool.and_eq_true] at hp
        simp only [interp, Ast.strip]
        samefirst (ih1 l d off hp.1)
        generalize interp rt fuel d l.strip off = res
        rcases res with e | ⟨v, off'⟩
        · exact Or.inl rfl
        · cases v <;> simp only [] <;> first | exact Or.inl rfl | skip
          sameclose (ih2 _ r off' hp.2)
      | objectValues o a =>
        simp only [Ast.strip, Ast.plain] at hp
        simp only [interp, Ast.strip]
        samefirst (ih1 a d off hp)
        exact Or.inl rfl
      | and o l r =>
        simp only [Ast.strip, Ast.plain, Bool.and_eq_true] at hp
        simp only [interp, Ast.strip]
        samefirst (ih1 l d off hp.1)
        generalize interp rt fuel d l.strip off = res
        rcases res with e | ⟨v, off'⟩
        · exact Or.inl rfl
        · simp only []
          split
          · exact Or.inl rfl
          · sameclose (ih1 r d off' hp.2)
      | or o l r =>
        simp only [Ast.strip, Ast.plain, Bool.and_eq_true] at hp
        simp only [interp, Ast.strip]
        samefirst (ih1 l d off hp.1)
        generalize interp rt fuel d l.strip off = res
        rcases res with e | ⟨v, off'⟩
        · exact Or.inl rfl
        · simp only []
          split
          · exact Or.inl rfl
          · sameclose (ih1 r d off' hp.2)
      | slice o a b c =>
        cases d <;> simp only [interp, Ast.strip] <;> split <;>
          first | exact Or.inr ⟨_, _, rfl, rfl⟩ | exact Or.inl rfl
      | subexpr o l r =>
        simp only [Ast.strip, Ast.plain, Bool.and_eq_true] at hp
        simp only [interp, Ast.strip]
        samefirst (ih1 l d off hp.1)
        generalize interp rt fuel d l.strip off = res
        rcases res with e | ⟨v, off'⟩
        · exact Or.inl rfl
        · simp only []
          sameclose (ih1 r v off' hp.2)
    · intro xs a off hp
      cases xs with
      | nil => simp only [projectEach]; exact Or.inl rfl
      | cons x rest =>
        simp only [projectEach]
        samefirst (ih1 a x off hp)
        generalize interp rt fuel x a.strip off = res
        rcases res with e | ⟨v, off'⟩
        · exact Or.inl rfl
        · simp only []
          sameclose (ih2 rest a off' hp)
    · intro d es off hp
      cases es with
      | nil => simp only [interpAll, stripList]; exact Or.inl rfl
      | cons a rest =>
        simp only [stripList, plainList, Bool.and_eq_true] at hp
        simp only [interpAll, stripList]
        samefirst (ih1 a d off hp.1)
        generalize interp rt fuel d a.strip off = res
        rcases res with e | ⟨v, off'⟩
        · exact Or.inl rfl
        · simp only []
          sameclose (ih3 d rest off' hp.2)
    · intro d kvs acc off hp
      cases kvs with
      | nil => simp only [interpKVs, stripKVs]; exact Or.inl rfl
      | cons kv rest =>
        obtain ⟨k, a⟩ := kv
        simp only [stripKVs, plainKVs, Bool.and_eq_true] at hp
        simp only [interpKVs, stripKVs]
        samefirst (ih1 a d off hp.1)
        generalize interp rt fuel d a.strip off = res
        rcases res with e | ⟨v, off'⟩
        · exact Or.inl rfl
        · simp only []
          sameclose (ih4 d rest _ off' hp.2)

end JmesVerif
