import JmesVerif.Lemmas.InterpDisc
import JmesVerif.Lemmas.InsertKV
import JmesVerif.Lemmas.Signature
import JmesVerif.Lemmas.SemJson
/-!
What a builtin that does not evaluate expression references (`Builtin.pure`) can return.  Its value is
built from scalars and from parts of its arguments, so any predicate that is `ValClosed` (true of
scalars, true of a container exactly when true of its members) passes from the arguments to the
result (`ValClosed.pure`); JSON-ness (`Val.isJson`: no expression reference inside) is the instance
`pure_json`, `VOk P` (`Lemmas/ErrorOffsets.lean`) the other.  Its errors are three `numOfF64` messages
or the `unreachable!()` arm (`pure_error`).  `sort_by` and `max_by`/`min_by` return parts of their first
argument (`sortBy_mem`, `byExtreme_json`).
-/
namespace JmesVerif

attribute [simp] arr_json obj_json
@[simp] theorem isJson_expref (a : Ast) : (Val.expref a).isJson = false := by rw [Val.isJson]
@[simp] theorem isJson_null : Val.null.isJson = true := by simp [Val.isJson]
@[simp] theorem isJson_bool (b : Bool) : (Val.bool b).isJson = true := by simp [Val.isJson]
@[simp] theorem isJson_num (n : Num) : (Val.num n).isJson = true := by simp [Val.isJson]
@[simp] theorem isJson_str (s : String) : (Val.str s).isJson = true := by simp [Val.isJson]

theorem indexList_mem {α : Type} (xs : List α) (i : Int) (v : α) (h : indexList xs i = some v) : v ∈ xs := by
  unfold indexList getIndex getNegIndex at h
  split at h
  · exact List.mem_of_getElem? h
  · simp only at h
    split at h
    · exact List.mem_of_getElem? h
    · simp at h

theorem loopUp_mem {α : Type} (xs : List α) (b step : Int) : ∀ (fuel : Nat) (i : Int) (ys : List α),
    loopUp xs b step fuel i = .ok ys → ∀ y ∈ ys, y ∈ xs := by
  intro fuel
  induction fuel with
  | zero => intro i ys h; simp [loopUp] at h
  | succ n ih =>
    intro i ys h
    rw [loopUp] at h
    repeat' (split at h)
    all_goals (try (simp at h; done))
    · rename_i x _ r hr
      simp at h
      subst h
      intro y hy
      simp at hy
      rcases hy with rfl | hy
      · exact List.mem_of_getElem? (by assumption)
      · exact ih _ _ hr y hy
    · simp at h; subst h; simp

theorem loopDown_mem {α : Type} (xs : List α) (b step : Int) : ∀ (fuel : Nat) (i : Int) (ys : List α),
    loopDown xs b step fuel i = .ok ys → ∀ y ∈ ys, y ∈ xs := by
  intro fuel
  induction fuel with
  | zero => intro i ys h; simp [loopDown] at h
  | succ n ih =>
    intro i ys h
    rw [loopDown] at h
    repeat' (split at h)
    all_goals (try (simp at h; done))
    · rename_i x _ r hr
      simp at h
      subst h
      intro y hy
      simp at hy
      rcases hy with rfl | hy
      · exact List.mem_of_getElem? (by assumption)
      · exact ih _ _ hr y hy
    · simp at h; subst h; simp

theorem sliceList_mem {α : Type} (xs : List α) (start stop : Option Int) (step : Int) (ys : List α)
    (h : sliceList xs start stop step = .ok ys) : ∀ y ∈ ys, y ∈ xs := by
  unfold sliceList at h
  simp only at h
  repeat' (split at h)
  · simp at h; subst h; simp
  · exact loopUp_mem _ _ _ _ _ _ h
  · exact loopDown_mem _ _ _ _ _ _ h

theorem sortVals_mem (xs : List Val) (y : Val) : y ∈ sortVals xs ↔ y ∈ xs := by
  unfold sortVals; exact List.mem_mergeSort

theorem sortPairs_mem (xs : List (Val × Val)) (y : Val × Val) : y ∈ sortPairs xs ↔ y ∈ xs := by
  unfold sortPairs; exact List.mem_mergeSort

/-- a predicate on values that holds of every scalar and of a container exactly when it holds of
the members (`Val.isJson`, `VOk P`): what the data operations and the builtins preserve -/
structure ValClosed (Q : Val → Prop) : Prop where
  null : Q .null
  bool : ∀ b, Q (.bool b)
  num : ∀ n, Q (.num n)
  str : ∀ s, Q (.str s)
  arr : ∀ xs, Q (.arr xs) ↔ ∀ x ∈ xs, Q x
  obj : ∀ kvs, Q (.obj kvs) ↔ ∀ p ∈ kvs, Q p.2

theorem isJson_closed : ValClosed (fun v => v.isJson = true) :=
  ⟨isJson_null, isJson_bool, isJson_num, isJson_str, @arr_json, @obj_json⟩

namespace ValClosed
variable {Q : Val → Prop} (hQ : ValClosed Q)
include hQ

theorem getField (d : Val) (k : String) (hd : Q d) : Q (d.getField k) := by
  unfold Val.getField
  split
  · rename_i kvs
    cases h : Val.lookup k kvs with
    | none => exact hQ.null
    | some v => exact (hQ.obj kvs).1 hd _ (lookup_mem h)
  · exact hQ.null

theorem index (xs : List Val) (i : Int) (h : ∀ x ∈ xs, Q x) : Q ((indexList xs i).getD .null) := by
  cases hi : indexList xs i with
  | none => exact hQ.null
  | some v => exact h v (indexList_mem xs i v hi)

theorem numOfF64 (f : F64) (msg : String) (v : Val) (h : numOfF64 f msg = .ok v) : Q v := by
  unfold JmesVerif.numOfF64 at h
  split at h <;> cases h
  exact hQ.num _

theorem mergeObjs : ∀ (args : List Val) (acc : List (String × Val)),
    (∀ a ∈ args, Q a) → (∀ p ∈ acc, Q p.2) → ∀ p ∈ mergeObjs acc args, Q p.2 := by
  intro args
  induction args with
  | nil => intro acc _ h; simpa [JmesVerif.mergeObjs] using h
  | cons a args ih =>
    intro acc hk ha
    have hk' : ∀ a ∈ args, Q a := fun x hx => hk x (List.mem_cons_of_mem _ hx)
    cases a with
    | obj kvs =>
      rw [JmesVerif.mergeObjs]
      refine ih _ hk' ?_
      have hkv := (hQ.obj kvs).1 (hk _ List.mem_cons_self)
      clear hk hk' ih
      induction kvs generalizing acc with
      | nil => exact ha
      | cons q kvs ih2 =>
        exact ih2 _ (forall_mem_insertKV (hkv q List.mem_cons_self) ha)
          (fun p hp => hkv p (List.mem_cons_of_mem _ hp))
    | _ => rw [JmesVerif.mergeObjs]; exact ih _ hk' ha; simp

theorem flatten (xs : List Val) (h : ∀ x ∈ xs, Q x) :
    ∀ y ∈ xs.flatMap (fun x => match x with | .arr ys => ys | other => [other]), Q y := by
  intro y hy
  rw [List.mem_flatMap] at hy
  obtain ⟨x, hx, hy⟩ := hy
  have hxo := h x hx
  split at hy
  · exact (hQ.arr _).1 hxo y hy
  · rw [List.mem_singleton] at hy; subst hy; exact hxo

/-- a builtin that does not evaluate expression references builds its result from scalars and
from parts of its arguments -/
theorem pure (b : Builtin) (args : List Val) (v : Val) (ha : ∀ a ∈ args, Q a)
    (h : b.pure args = .ok v) : Q v := by
  unfold Builtin.pure at h
  split at h
  all_goals first
    | exact hQ.numOfF64 _ _ _ h
    | (cases h; first | exact hQ.bool _ | exact hQ.str _ | exact hQ.num _ | exact hQ.null)
    | skip
  · split at h
    · cases h; exact hQ.null
    · exact hQ.numOfF64 _ _ _ h
  · split at h <;> cases h <;> exact hQ.bool _
  · cases h
    refine (hQ.arr _).2 fun y hy => ?_
    obtain ⟨p, _, rfl⟩ := List.mem_map.1 hy
    exact hQ.str _
  · cases h
    refine (hQ.arr _).2 fun y hy => ?_
    obtain ⟨p, hp, rfl⟩ := List.mem_map.1 hy
    exact (hQ.obj _).1 (ha _ List.mem_cons_self) p hp
  · cases h
    cases hf : foldMax _ with
    | none => exact hQ.null
    | some w => exact (hQ.arr _).1 (ha _ List.mem_cons_self) w (foldMax_mem _ _ hf)
  · cases h
    cases hf : foldMin _ with
    | none => exact hQ.null
    | some w => exact (hQ.arr _).1 (ha _ List.mem_cons_self) w (foldMin_mem _ _ hf)
  · cases h
    exact (hQ.obj _).2 (hQ.mergeObjs args [] ha (fun _ h => nomatch h))
  · cases h
    cases hf : List.find? _ args with
    | none => exact hQ.null
    | some w => exact ha w (List.mem_of_find?_eq_some hf)
  · cases h
    exact (hQ.arr _).2 fun y hy => (hQ.arr _).1 (ha _ List.mem_cons_self) y (List.mem_reverse.1 hy)
  · cases h
    exact (hQ.arr _).2 fun y hy => (hQ.arr _).1 (ha _ List.mem_cons_self) y ((sortVals_mem _ y).1 hy)
  · cases h
    exact ha _ List.mem_cons_self
  · cases h
    exact (hQ.arr _).2 fun y hy => List.mem_singleton.1 hy ▸ ha _ List.mem_cons_self
  · split at h <;> cases h <;> first | exact hQ.num _ | exact hQ.null
  · cases h
end ValClosed

theorem pure_json (b : Builtin) (args : List Val) (v : Val) (ha : ∀ a ∈ args, a.isJson = true)
    (h : b.pure args = .ok v) : v.isJson = true :=
  isJson_closed.pure b args v ha h

theorem numOfF64_err (f : F64) (msg : String) (e : EvalErr) (h : numOfF64 f msg = .error e) :
    e = .internal msg := by
  unfold numOfF64 at h
  split at h <;> cases h
  rfl

/-- the three messages of `numOfF64` (finding F14) -/
def internalMsgs : List String :=
  ["Expected to be a valid f64", "Expected n.ceil() to be a valid f64", "Expected to be a valid number"]

/-- the only errors a builtin body builds itself are the three `numOfF64` messages, apart from the
`unreachable!()` arm -/
theorem pure_error (b : Builtin) (args : List Val) (e : EvalErr) (h : b.pure args = .error e) :
    (∃ msg ∈ internalMsgs, e = .internal msg) ∨ ∃ m, e = .panic m := by
  unfold Builtin.pure at h
  split at h
  all_goals first
    | cases h; done
    | (cases numOfF64_err _ _ _ h; exact .inl ⟨_, by simp [internalMsgs], rfl⟩)
    | skip
  · split at h
    · cases h
    · cases numOfF64_err _ _ _ h; exact .inl ⟨_, by simp [internalMsgs], rfl⟩
  · split at h <;> cases h
  · split at h <;> cases h
  · cases h; exact .inr ⟨_, rfl⟩
theorem sortBy_mem (xs ks : List Val) : ∀ y ∈ (sortPairs (xs.zip ks)).map (·.1), y ∈ xs := by
  intro y hy
  simp only [List.mem_map] at hy
  obtain ⟨p, hp, rfl⟩ := hy
  rw [sortPairs_mem] at hp
  obtain ⟨a, b⟩ := p
  exact (List.of_mem_zip hp).1

theorem pick_mem (f : Val × Val → Val × Val → Val × Val) (hf : ∀ a b, f a b = a ∨ f a b = b)
    (x k0 : Val) (rest ks : List Val) : ((rest.zip ks).foldl f (x, k0)).1 ∈ x :: rest := by
  have := foldl_pick_mem f hf (rest.zip ks) (x, k0)
  generalize (rest.zip ks).foldl f (x, k0) = p at this
  obtain ⟨a, b⟩ := p
  simp only [List.mem_cons] at this ⊢
  rcases this with h | h
  · simp only [Prod.mk.injEq] at h; exact .inl h.1
  · exact .inr (List.of_mem_zip h).1

/-- `byExtreme` returns `null` or one of the elements -/
theorem byExtreme_json (rt : Registry) (n : Nat) (isMax : Bool) (xs : List Val) (a : Ast) (off : Nat)
    (v : Val) (off' : Nat) (hx : ∀ x ∈ xs, x.isJson = true)
    (h : byExtreme rt n isMax xs a off = .ok (v, off')) : v.isJson = true := by
  cases n with
  | zero => simp [byExtreme] at h
  | succ n =>
    rw [byExtreme_succ] at h
    cases xs with
    | nil => cases h; rfl
    | cons x rest =>
      obtain ⟨k0, ks, -, -, -, rfl⟩ := keyLoop_ok (Comp.lift_ok_iff.1 h).1
      refine hx _ (pick_mem _ (fun a b => ?_) ..)
      split <;> split <;> simp

end JmesVerif
