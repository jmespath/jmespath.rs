import JmesVerif.Lemmas.AbnfCompleteAux
/-
Completeness of `Legal` w.r.t. the published ABNF (`Spec/Abnf.lean`): every sentence of the published
grammar has a tree that is `Legal 0` (hence is accepted by the parser, theorem T2), spells exactly that
sentence, and uses none of the deviations F3/F4/F5.

Route: induction on the ABNF derivation.  Closed forms are heads; `e . rhs` and `e bracket-specifier`
attach one application to the tree of `e` along its right spine (`attachExpr`, `Lemmas/AbnfAttach.lean`);
`l op r` attaches `op` applied to the tight prefix of `r`'s tree and then re-attaches the remaining
top-level applications of `r` one by one; `! e` takes the prefix of `e`'s applications that bind
tighter than 45 as its operand and leaves the rest outside.
-/
namespace JmesVerif
open GrammarCheck

theorem isStarOnly_eq {es : List Expr} (h : isStarOnly es = true) : es = [.mk (.star .none) []] := by
  unfold isStarOnly at h
  split at h
  · rfl
  · cases h

theorem comparator_tok {c : Tok} : Abnf.Comparator c → ∃ o, c = cmpTok o
  | .lt => ⟨.lt, rfl⟩
  | .lte => ⟨.le, rfl⟩
  | .eq => ⟨.eq, rfl⟩
  | .gte => ⟨.ge, rfl⟩
  | .gt => ⟨.gt, rfl⟩
  | .ne => ⟨.ne, rfl⟩

mutual
theorem expr_good : ∀ {ts : List Tok}, Abnf.Expression ts → Good ts
  | _, .sub h r =>
    have ⟨it, hp, ht⟩ := subrhs_item r
    ht ▸ good_attach it hp (expr_good h)
  | _, .index h b =>
    have ⟨⟨it, hp, ht⟩, _⟩ := bracket_good b
    ht ▸ good_attach it hp (expr_good h)
  | _, .bracket b => (bracket_good b).2
  | _, .comparator l c r => by
    obtain ⟨o, rfl⟩ := comparator_tok c
    exact good_bin (BinOp.cmp o) (expr_good l) (expr_good r)
  | _, .or l r => good_bin BinOp.or (expr_good l) (expr_good r)
  | _, .and l r => good_bin BinOp.and (expr_good l) (expr_good r)
  | _, .pipe l r => good_bin BinOp.pipe (expr_good l) (expr_good r)
  | _, .identifier i => by
    cases i with
    | unquoted s => exact good_head (.field s) trivial Dev.clean_empty rfl
    | quoted s => exact good_head (.qfield s) trivial Dev.clean_empty rfl
  | _, .not e => good_not (expr_good e)
  | _, .paren e => by
    obtain ⟨e', h1, rfl, h3⟩ := expr_good e
    exact good_head (.paren e') h1 h3 rfl
  | _, .star => good_head (.star .none) trivial Dev.clean_empty rfl
  | _, .multiSelectList m => by
    obtain ⟨es, h1, h2, h3, rfl⟩ := mlist_good m
    cases hs : isStarOnly es with
    | true =>
      -- `[*]` is the wildcard index, not a one-element list
      rw [isStarOnly_eq hs]
      exact good_head (.wildIdx .none) trivial Dev.clean_empty rfl
    | false => exact good_head (.mlist es) ⟨h1, hs, h2⟩ h3 rfl
  | _, .multiSelectHash m => by
    obtain ⟨kvs, h1, h2, h3, rfl⟩ := mhash_good m
    exact good_head (.mhash kvs) ⟨h1, h2⟩ h3 rfl
  | _, .literal v => good_head (.lit v) trivial Dev.clean_empty rfl
  | _, .function f => by
    obtain ⟨s, args, h1, h2, rfl⟩ := func_good f
    exact good_head (.call s args) h1 h2 rfl
  | _, .currentNode => good_head .at trivial Dev.clean_empty rfl
theorem subrhs_item : ∀ {ts : List Tok}, Abnf.SubRhs ts →
    ∃ it : Item, 0 < it.led.lbp ∧ it.led.toks = .dot :: ts
  | _, .identifier i => by
    cases i with
    | unquoted s => exact ⟨Item.dotHead (.field s) trivial rfl rfl Dev.clean_empty rfl, Nat.zero_lt_succ _, rfl⟩
    | quoted s => exact ⟨Item.dotHead (.qfield s) trivial rfl rfl Dev.clean_empty rfl, Nat.zero_lt_succ _, rfl⟩
  | _, .multiSelectList m => by
    obtain ⟨es, h1, h2, h3, rfl⟩ := mlist_good m
    exact ⟨Item.dotMlist es h1 h2 h3, Nat.zero_lt_succ _, rfl⟩
  | _, .multiSelectHash m => by
    obtain ⟨kvs, h1, h2, h3, rfl⟩ := mhash_good m
    exact ⟨Item.dotHead (.mhash kvs) ⟨h1, h2⟩ rfl rfl h3 rfl, Nat.zero_lt_succ _, Item.dotHead_toks ..⟩
  | _, .function f => by
    obtain ⟨s, args, h1, h2, rfl⟩ := func_good f
    exact ⟨Item.dotHead (.call s args) h1 rfl rfl h2 rfl, Nat.zero_lt_succ _, Item.dotHead_toks ..⟩
  | _, .star => ⟨Item.dotStar, Nat.zero_lt_succ _, rfl⟩
theorem bracket_good : ∀ {ts : List Tok}, Abnf.BracketSpecifier ts →
    (∃ it : Item, 0 < it.led.lbp ∧ it.led.toks = ts) ∧ Good ts
  | _, .number n =>
    good_bracket (.index n) (.idx n) trivial Dev.clean_empty trivial rfl Dev.clean_empty rfl rfl rfl
      (Nat.zero_lt_succ _)
  | _, .star =>
    good_bracket (.wildIdxL .none) (.wildIdx .none) trivial Dev.clean_empty trivial rfl Dev.clean_empty rfl rfl
      rfl (Nat.zero_lt_succ _)
  | _, .slice s => by
    obtain ⟨hdr, rfl⟩ := slice_toks s
    exact good_bracket (.sliceL hdr .none) (.slice hdr .none) trivial Dev.clean_empty trivial rfl
      Dev.clean_empty rfl rfl rfl (Nat.zero_lt_succ _)
  | _, .flatten =>
    ⟨⟨Item.flatten, Nat.zero_lt_succ _, rfl⟩, good_head (.flatten .none) trivial Dev.clean_empty rfl⟩
  | _, .filter e => by
    obtain ⟨p, h1, rfl, h3⟩ := expr_good e
    have hc : Cl ((exprDev false p).add {}) := (Dev.clean_add ..).2 ⟨h3, Dev.clean_empty⟩
    exact good_bracket (.filterL p .none) (.filter p .none) ⟨h1, trivial⟩ hc ⟨h1, trivial⟩ rfl hc rfl rfl rfl
      (Nat.zero_lt_succ _)
theorem mlist_good : ∀ {ts : List Tok}, Abnf.MultiSelectList ts →
    ∃ es : List Expr, es ≠ [] ∧ argsLegal es ∧ Cl (argsDev false es) ∧ ts = .lbracket :: (argsToks es ++ [.rbracket])
  | _, .mk l => by
    obtain ⟨es, h1, h2, h3, rfl⟩ := exprlist_good l
    exact ⟨es, h1, h2, h3, rfl⟩
theorem exprlist_good : ∀ {ts : List Tok}, Abnf.ExprList ts →
    ∃ es : List Expr, es ≠ [] ∧ argsLegal es ∧ Cl (argsDev false es) ∧ argsToks es = ts
  | _, .one e => by
    obtain ⟨e', h1, rfl, h3⟩ := expr_good e
    exact ⟨[e'], nofun, ⟨h1, trivial⟩, (Dev.clean_add ..).2 ⟨h3, Dev.clean_empty⟩, List.append_nil _⟩
  | _, .cons e l => by
    obtain ⟨e', h1, rfl, h3⟩ := expr_good e
    obtain ⟨es, g1, g2, g3, rfl⟩ := exprlist_good l
    exact ⟨e' :: es, nofun, ⟨h1, g2⟩, (Dev.clean_add ..).2 ⟨h3, g3⟩,
      congrArg (e'.toks ++ ·) (argsTail_eq es g1)⟩
theorem mhash_good : ∀ {ts : List Tok}, Abnf.MultiSelectHash ts →
    ∃ kvs : List (Bool × String × Expr), kvs ≠ [] ∧ kvsLegal kvs ∧ Cl (kvsDev kvs)
      ∧ ts = .lbrace :: (kvsToks kvs ++ [.rbrace])
  | _, .mk l => by
    obtain ⟨kvs, h1, h2, h3, rfl⟩ := kvlist_good l
    exact ⟨kvs, h1, h2, h3, rfl⟩
theorem kvlist_good : ∀ {ts : List Tok}, Abnf.KeyvalList ts →
    ∃ kvs : List (Bool × String × Expr), kvs ≠ [] ∧ kvsLegal kvs ∧ Cl (kvsDev kvs) ∧ kvsToks kvs = ts
  | _, .one k e => by
    obtain ⟨q, s, rfl⟩ := ident_key k
    obtain ⟨e', h1, rfl, h3⟩ := expr_good e
    exact ⟨[(q, s, e')], nofun, ⟨h1, trivial⟩, (Dev.clean_add ..).2 ⟨h3, Dev.clean_empty⟩,
      congrArg (keyTok q s :: .colon :: ·) (List.append_nil _)⟩
  | _, .cons k e l => by
    obtain ⟨q, s, rfl⟩ := ident_key k
    obtain ⟨e', h1, rfl, h3⟩ := expr_good e
    obtain ⟨kvs, g1, g2, g3, rfl⟩ := kvlist_good l
    exact ⟨(q, s, e') :: kvs, nofun, ⟨h1, g2⟩, (Dev.clean_add ..).2 ⟨h3, g3⟩,
      congrArg (fun x => keyTok q s :: .colon :: (e'.toks ++ x)) (kvsTail_eq kvs g1)⟩
theorem func_good : ∀ {ts : List Tok}, Abnf.FunctionExpression ts →
    ∃ (s : String) (args : List Expr), argsLegal args ∧ Cl (argsDev true args)
      ∧ ts = .identifier s :: .lparen :: (argsToks args ++ [.rparen])
  | _, .noArgs name => ⟨name, [], trivial, Dev.clean_empty, rfl⟩
  | _, .args name l => by
    obtain ⟨es, _, h2, h3, rfl⟩ := arglist_good l
    exact ⟨name, es, h2, h3, rfl⟩
theorem arglist_good : ∀ {ts : List Tok}, Abnf.ArgList ts →
    ∃ es : List Expr, es ≠ [] ∧ argsLegal es ∧ Cl (argsDev true es) ∧ argsToks es = ts
  | _, .one a => by
    obtain ⟨e', h1, h3, rfl⟩ := funarg_good a
    exact ⟨[e'], nofun, ⟨h1, trivial⟩, (Dev.clean_add ..).2 ⟨h3, Dev.clean_empty⟩, List.append_nil _⟩
  | _, .cons a l => by
    obtain ⟨e', h1, h3, rfl⟩ := funarg_good a
    obtain ⟨es, g1, g2, g3, rfl⟩ := arglist_good l
    exact ⟨e' :: es, nofun, ⟨h1, g2⟩, (Dev.clean_add ..).2 ⟨h3, g3⟩,
      congrArg (e'.toks ++ ·) (argsTail_eq es g1)⟩
theorem funarg_good : ∀ {ts : List Tok}, Abnf.FunctionArg ts →
    ∃ e : Expr, e.Legal 0 ∧ Cl (exprDev true e) ∧ e.toks = ts
  | _, .expression e => by
    obtain ⟨e', h1, rfl, h3⟩ := expr_good e
    exact ⟨e', h1, exprDev_true_of_false e' h3, rfl⟩
  | _, .expressionType e => by
    obtain ⟨e', h1, rfl, h3⟩ := expr_good e
    exact ⟨.mk (.expref e') [], head_legal _ 0 h1,
      (Dev.clean_add ..).2 ⟨(Dev.clean_add ..).2 ⟨h3, Dev.clean_empty⟩, Dev.clean_f16 _⟩, List.append_nil _⟩
end

theorem abnf_complete (ts : List Tok) (h : Abnf.Expression ts) :
    ∃ e : Expr, e.Legal 0 ∧ e.toks = ts ∧ (GrammarCheck.exprDev false e).languageClean :=
  expr_good h

end JmesVerif

#print axioms JmesVerif.abnf_complete
