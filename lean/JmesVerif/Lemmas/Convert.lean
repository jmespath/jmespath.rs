import JmesVerif.Model.Convert
import JmesVerif.Lemmas.SerdeValue
namespace JmesVerif

theorem svToVariable_svOfNum (n : Num) (h : n.ok = true) : svToVariable (svOfNum n) = some (.num n) := by
  cases n with
  | pos n => simp [svOfNum, svToVariable, numOfInt]
  | neg i =>
    have hi : i < 0 := by simpa [Num.ok] using h
    simp [svOfNum, svToVariable, numOfInt, hi]
  | flt f =>
    have hf : f.isFinite = true := by simpa [Num.ok] using h
    simp [svOfNum, svToVariable, valOfF64, hf]

mutual
theorem generic_value : ∀ j : JValue, j.finite = true → svToVariable (svOfJValue j) = some j.toVal
  | .null, _ => rfl
  | .bool _, _ => rfl
  | .num n, h => svToVariable_svOfNum n h
  | .str _, _ => rfl
  | .arr xs, h => congrArg (Option.map Val.arr) (generic_values xs h)
  | .obj kvs, h => congrArg (Option.map Val.obj) (generic_kvs kvs [] h)
theorem generic_values : ∀ xs : List JValue, JValue.finites xs = true →
    svSeqToVariable (svOfJValues xs) = some (JValue.toVals xs)
  | [], _ => rfl
  | x :: xs, h => by
    simp only [JValue.finites, Bool.and_eq_true] at h
    simp only [svOfJValues, svSeqToVariable, generic_value x h.1, generic_values xs h.2, JValue.toVals]
    rfl
theorem generic_kvs : ∀ (kvs : List (String × JValue)) (acc : List (String × Val)), JValue.finiteKVs kvs = true →
    svMapToVariable (svOfJKVs kvs) acc = some (JValue.toKVs kvs acc)
  | [], acc, _ => rfl
  | (k, x) :: r, acc, h => by
    simp only [JValue.finiteKVs, Bool.and_eq_true] at h
    simp only [svOfJKVs, svMapToVariable, svToVariable, generic_value x h.1, JValue.toKVs]
    exact generic_kvs r _ h.2
end

mutual
theorem generic_variable : ∀ v : Val, v.isJson = true → v.finite = true → v.Sorted →
    svToVariable (svOfVal v) = some v
  | .null, _, _, _ => rfl
  | .bool _, _, _, _ => rfl
  | .num n, _, h, _ => svToVariable_svOfNum n h
  | .str _, _, _, _ => rfl
  | .arr xs, hj, h, hs => congrArg (Option.map Val.arr) (generic_variables xs hj h hs)
  | .obj kvs, hj, h, hs => congrArg (Option.map Val.obj) (generic_varKVs kvs [] hj h hs.2 hs.1 nofun)
  | .expref _, hj, _, _ => nomatch hj
theorem generic_variables : ∀ xs : List Val, valsJson xs = true → Val.finites xs = true → valsSorted xs →
    svSeqToVariable (svOfVals xs) = some xs
  | [], _, _, _ => rfl
  | x :: xs, hj, h, hs => by
    simp only [valsJson, Bool.and_eq_true] at hj
    simp only [Val.finites, Bool.and_eq_true] at h
    simp only [svOfVals, svSeqToVariable, generic_variable x hj.1 h.1 hs.1, generic_variables xs hj.2 h.2 hs.2]
    rfl
theorem generic_varKVs : ∀ (kvs acc : List (String × Val)), kvsJson kvs = true → Val.finiteKVs kvs = true →
    kvsSorted kvs → KeysSorted kvs → (∀ p ∈ acc, ∀ q ∈ kvs, p.1 < q.1) →
    svMapToVariable (svOfKVs kvs) acc = some (acc ++ kvs)
  | [], acc, _, _, _, _, _ => by simp [svOfKVs, svMapToVariable]
  | (k, x) :: r, acc, hj, h, hs, hk, hacc => by
    simp only [kvsJson, Bool.and_eq_true] at hj
    simp only [Val.finiteKVs, Bool.and_eq_true] at h
    simp only [svOfKVs, svMapToVariable, svToVariable, generic_variable x hj.1 h.1 hs.1]
    have ⟨hi, hb⟩ := insertKV_below x hacc (keysSorted_head_lt k x r hk)
    rw [hi, generic_varKVs r _ hj.2 h.2 hs.2 (keysSorted_tail _ _ hk) hb]
    simp
end

/-- the inputs on which the two conversion paths are claimed to agree: JSON-representable data -/
def Input.representable : Input → Prop
  | .value j => j.finite = true
  | .lib v => v.isJson = true ∧ v.finite = true ∧ v.Sorted
  | .f32 x => x.isFinite = true
  | .f64 x => x.isFinite = true
  | _ => True

end JmesVerif
