import JmesVerif.Spec.SemFull
import JmesVerif.Model.Interp
import JmesVerif.Lemmas.SemFullBase
import JmesVerif.Lemmas.SemFullFn
import JmesVerif.Lemmas.SemFullJson
import JmesVerif.Lemmas.SemFullSafe
import JmesVerif.Lemmas.SemFullWidth
/-
Conformance of the interpreter to the FULL semantics `SemFull` (core forms + the 26 builtin
functions + expression references as arguments), by the same mutual induction over concrete syntax
as `Lemmas/SemConform.lean`, with the call case added.

This tower (`SemFull`, `SafeF`, `wbF`, `*_jsonF`, `*_convF`) covers every form and is the primary one;
the core tower (`Sem`, `SliceSafe`, `wb`, `*_convE`) repeats the induction for the core forms and
shares only JSON-ness with it.  A new core form needs a case in both, and in the bridges `*_eq_Sem`,
`*Ok_of_core` (`Lemmas/SemFullExt.lean`) and `*wbF_core` (`Lemmas/SemFullWidth.lean`).
-/
namespace JmesVerif
open Spec

/-- what a search outcome means: a value, a `JmespathError` (any kind, any offset), or something
the real code cannot return (a panic, the model's fuel exhaustion) -/
def resultOfF : ERes Val → Option (Option Val)
  | .ok (v, _) => some (some v)
  | .error e => if e.genuine then some none else none

section conv
set_option linter.unusedSectionVars false
variable (rt : Registry)

/-! ### statements of the induction, as propositions (needed to state the non-recursive
argument-list step `args_consF`) -/
def NudGoal (h : Nud) : Prop :=
  SemFull.nudOk h = true → ∀ d : Val, d.isJson = true → SafeF.nud d h →
    ∀ off : Nat, CIF rt d h.ast off (SemFull.nud d h)
def ExprGoal (e : Expr) : Prop :=
  SemFull.exprOk e = true → ∀ d : Val, d.isJson = true → SafeF.expr d e →
    ∀ off : Nat, CIF rt d e.ast off (SemFull.expr d e)
def FnGoal (h : Nud) : Prop := ∀ e, h = .expref e → ExprGoal rt e
def LedsGoal (ls : List Led) : Prop :=
  SemFull.ledsOk ls = true → ∀ (left : Ast) (d : Val) (sl : Option Val) (off : Nat),
    d.isJson = true → CIF rt d left off sl →
    (∀ lv, sl = some lv → lv.isJson = true ∧ SafeF.leds d lv ls) →
    CIF rt d (ledsAst left ls) off (sl.bind fun lv => SemFull.leds d lv ls)
def ArgsGoal (es : List Expr) : Prop :=
  ∀ (name : String) (i : Nat), SemFull.argsOk name i es = true → ∀ d : Val, d.isJson = true →
    SafeF.args d es → ∀ D : List Val, (∀ x ∈ D, x.isJson = true ∧ SafeF.fnArgs x es) →
    ∀ off : Nat, CArgsF rt (SemFull.exprefParam name) D i d (exprsAst es) off (SemFull.args d es)

theorem expr_ofF {h : Nud} {ls : List Led} (hn : NudGoal rt h) (hl : LedsGoal rt ls) :
    ExprGoal rt (.mk h ls) := by
  intro hc d hd hs off
  simp only [SemFull.exprOk, Bool.and_eq_true] at hc; simp only [SafeF.expr] at hs
  simp only [Expr.ast]
  refine (hl hc.2 h.ast d (SemFull.nud d h) off hd (hn hc.1 d hd hs.1 off)
    (fun lv hlv => ⟨nud_jsonF h hc.1 d hd lv hlv, hs.2 lv hlv⟩)).congr rt ?_
  simp only [SemFull.expr]
  cases SemFull.nud d h <;> rfl

theorem CArgsF.congr {ok : Nat → Bool} {D : List Val} {i : Nat} {d : Val} {es : List Ast} {off : Nat}
    {s s' : Option (List SemFull.Arg)} (h : CArgsF rt ok D i d es off s) (e : s = s') :
    CArgsF rt ok D i d es off s' := e ▸ h

theorem args_nilF : ArgsGoal rt [] := by
  intro name i _ d _ _ D _ off
  simp only [exprsAst, SemFull.args]
  exact cargs_nil rt _ D i d off

theorem args_consF (h : Nud) (ls : List Led) (rest : List Expr)
    (hn : NudGoal rt h) (hf : FnGoal rt h) (hl : LedsGoal rt ls) (hr : ArgsGoal rt rest) :
    ArgsGoal rt (.mk h ls :: rest) := by
  intro name i hok d hd hsafe D hD off
  by_cases hex : ∃ e, h = .expref e ∧ ls = []
  · obtain ⟨e, rfl, rfl⟩ := hex
    simp only [SemFull.argsOk, Bool.and_eq_true] at hok
    simp only [SafeF.args] at hsafe
    simp only [SafeF.fnArgs] at hD
    simp only [SemFull.args, exprsAst, Expr.ast, ledsAst, Nud.ast]
    exact cargs_cons_fn rt hok.1.1
      (fun x hx o => hf e rfl hok.1.2 x (hD x hx).1 (hD x hx).2.1 o)
      (hr name (i + 1) hok.2 d hd hsafe D (fun x hx => ⟨(hD x hx).1, (hD x hx).2.2⟩) off)
  · have hne : ∀ e', Expr.mk h ls = .mk (.expref e') [] → False := by
      intro e' he
      injection he with h1 h2
      exact hex ⟨e', h1, h2⟩
    rw [SemFull.argsOk.eq_3 _ _ _ _ hne, Bool.and_eq_true] at hok
    rw [SafeF.args.eq_3 _ _ _ hne] at hsafe
    simp only [SafeF.fnArgs.eq_3 _ _ _ hne] at hD
    rw [SemFull.args.eq_3 _ _ _ hne]
    simp only [exprsAst]
    refine (cargs_cons_val rt (expr_ofF rt hn hl hok.1 d hd hsafe.1 off)
      (fun v hv => expr_jsonF _ hok.1 d hd v hv)
      (fun _ _ => hr name (i + 1) hok.2 d hd hsafe.2 D hD off)).congr rt ?_
    cases SemFull.expr d (.mk h ls) <;> rfl

/-- the elements an `&e` argument is applied to are JSON -/
theorem fnDomain_json {s : Option (List SemFull.Arg)} (h : ∀ as, s = some as → ArgsJson as) :
    ∀ x ∈ fnDomain s, x.isJson = true := by
  intro x hx
  unfold fnDomain at hx
  split at hx
  · rename_i f xs
    have := h _ rfl (.val (.arr xs)) (by simp)
    simp only at this
    exact arr_json.mp this x hx
  · rename_i xs f
    have := h _ rfl (.val (.arr xs)) (by simp)
    simp only at this
    exact arr_json.mp this x hx
  · simp at hx

variable (hrt : ∀ n, rt.get n = (SemFull.builtinOf n).map Fn.builtin)
include hrt

mutual
theorem nud_convF : ∀ h : Nud, SemFull.nudOk h = true → ∀ d : Val, d.isJson = true →
    SafeF.nud d h → ∀ off : Nat, CIF rt d h.ast off (SemFull.nud d h)
  | .at, _, d, _, _, off => cif_identity rt d 0 off
  | .field s, _, d, _, _, off => cif_field rt d 0 off s
  | .qfield s, _, d, _, _, off => cif_field rt d 0 off s
  | .call name as, hc, d, hd, hs, off =>
    cif_function rt hrt (args_convF as name 0 hc d hd hs.1 (fnDomain (SemFull.args d as))
      (fun x hx => ⟨fnDomain_json (fun as' h' => args_jsonF as name 0 hc d hd as' h') x hx, hs.2 x hx⟩) off)
  | .lit v, _, d, _, _, off => cif_literal rt d v 0 off
  | .idx n, _, d, _, _, off => cif_index rt d 0 off n
  | .expref _, hc, _, _, _, off => by simp [SemFull.nudOk] at hc
  | .paren e, hc, d, hd, hs, off =>
    expr_convF e hc d hd hs off
  | .not e, hc, d, hd, hs, off => by
    simp only [Nud.ast, SemFull.nud]
    refine (cif_not rt (expr_convF e hc d hd hs off)).congr rt ?_
    cases h : SemFull.expr d e with
    | none => rfl
    | some v => simp [truthy_eq v (expr_jsonF e hc d hd v h)]
  | .mlist es, hc, d, hd, hs, off =>
    cif_multiList rt (fun hn => exprs_convF es hc d hd (hs hn) off)
  | .mhash kvs, hc, d, hd, hs, off =>
    cif_multiHash rt (fun hn => kvs_convF kvs hc d hd (hs hn) [] off)
  | .wildIdx r, hc, d, hd, hs, off =>
    cif_proj rt (cif_identity rt d 0 off) fun xs hxs x hx =>
      have hxs : d = .arr xs := Option.some.inj hxs
      rhs_convF r hc x (arr_json.mp (hxs ▸ hd) x hx) (hs xs hxs x hx) off
  | .star r, hc, d, hd, hs, off =>
    cif_objProj rt (cif_identity rt d 0 off) fun m hm x hx =>
      have hm : d = .obj m := Option.some.inj hm
      rhs_convF r hc x (values_json (hm ▸ hd) x hx) (hs m hm x hx) off
  | .flatten r, hc, d, hd, hs, off =>
    cif_flatProj rt (cif_identity rt d 0 off) fun ys hy x hx =>
      have hy : d = .arr ys := Option.some.inj hy
      rhs_convF r hc x (flatten1_json (hy ▸ hd) x hx) (hs ys hy x hx) off
  | .slice h r, hc, d, hd, hs, off =>
    cif_sliceProj rt fun h0 ys hy => ⟨(hs h0 ys hy).1, fun x hx =>
      rhs_convF r hc x (pySlice_json (hy ▸ hd) x hx) ((hs h0 ys hy).2 x hx) off⟩
  | .filter p r, hc, d, hd, hs, off => by
    simp only [SemFull.nudOk, Bool.and_eq_true] at hc; simp only [SafeF.nud] at hs
    refine (cif_proj rt (f := fun x => match SemFull.expr x p with
      | none => none
      | some c => if Sem.truthy c then SemFull.rhs x r else some .null) (cif_identity rt d 0 off) ?_).congr rt ?_
    rotate_left
    · cases d <;> rfl
    · intro xs hxs x hx
      simp only [Option.some.injEq] at hxs
      have hxj := arr_json.mp (hxs ▸ hd) x hx
      have hsx := hs xs hxs x hx
      refine (cif_condition rt (expr_convF p hc.1 x hxj hsx.1 off)
        (st := SemFull.rhs x r) (fun c hcv ht => rhs_convF r hc.2 x hxj (hsx.2 c hcv ?_) off)).congr rt ?_
      · rw [← truthy_eq c (expr_jsonF p hc.1 x hxj c hcv)]; exact ht
      · cases hcv : SemFull.expr x p with
        | none => rfl
        | some c => simp [truthy_eq c (expr_jsonF p hc.1 x hxj c hcv)]
theorem led_convF : ∀ l : Led, SemFull.ledOk l = true → ∀ (left : Ast) (d : Val) (sl : Option Val) (off : Nat),
    d.isJson = true → CIF rt d left off sl →
    (∀ lv, sl = some lv → lv.isJson = true ∧ SafeF.led d lv l) →
    CIF rt d (l.ast left) off (sl.bind fun lv => SemFull.led d lv l)
  | .callDev _, hc, _, _, _, off, _, _, _ => by simp [SemFull.ledOk] at hc
  | .dot dr, hc, left, d, sl, off, hd, hl, hs =>
    cif_subexpr rt hl (fun lv hlv => dot_convF dr hc lv (hs lv hlv).1 (by simpa [SafeF.led] using (hs lv hlv).2) off)
  | .index n, _, left, d, sl, off, hd, hl, hs =>
    cif_subexpr rt hl (fun lv _ => cif_index rt lv 0 off n)
  | .pipe e, hc, left, d, sl, off, hd, hl, hs =>
    cif_subexpr rt hl (fun lv hlv => expr_convF e hc lv (hs lv hlv).1 (by simpa [SafeF.led] using (hs lv hlv).2) off)
  | .or e, hc, left, d, sl, off, hd, hl, hs => by
    simp only [Led.ast, SemFull.led]
    refine (cif_or rt (sr := SemFull.expr d e) hl (fun lv hlv ht => expr_convF e hc d hd ?_ off)).congr rt ?_
    · have := (hs lv hlv).2
      simp only [SafeF.led] at this
      exact this (by rw [← truthy_eq lv (hs lv hlv).1]; exact ht)
    · cases sl with
      | none => rfl
      | some lv => simp [truthy_eq lv (hs lv rfl).1]
  | .and e, hc, left, d, sl, off, hd, hl, hs => by
    simp only [Led.ast, SemFull.led]
    refine (cif_and rt (sr := SemFull.expr d e) hl (fun lv hlv ht => expr_convF e hc d hd ?_ off)).congr rt ?_
    · have := (hs lv hlv).2
      simp only [SafeF.led] at this
      exact this (by rw [← truthy_eq lv (hs lv hlv).1]; exact ht)
    · cases sl with
      | none => rfl
      | some lv => simp [truthy_eq lv (hs lv rfl).1]
  | .cmp o e, hc, left, d, sl, off, hd, hl, hs =>
    cif_comparison rt hl (fun lv hlv => expr_convF e hc d hd (by simpa [SafeF.led] using (hs lv hlv).2) off)
  | .wildIdxL r, hc, left, d, sl, off, hd, hl, hs =>
    cif_proj rt hl fun xs hxs x hx =>
      rhs_convF r hc x (arr_json.mp (hs _ hxs).1 x hx) ((hs _ hxs).2 xs rfl x hx) off
  | .dotStar r, hc, left, d, sl, off, hd, hl, hs =>
    cif_objProj rt hl fun m hm x hx =>
      rhs_convF r hc x (values_json (hs _ hm).1 x hx) ((hs _ hm).2 m rfl x hx) off
  | .flattenL r, hc, left, d, sl, off, hd, hl, hs =>
    cif_flatProj rt hl fun ys hy x hx =>
      rhs_convF r hc x (flatten1_json (hs _ hy).1 x hx) ((hs _ hy).2 ys rfl x hx) off
  | .sliceL h r, hc, left, d, sl, off, hd, hl, hs =>
    cif_subexpr rt hl fun lv hlv =>
      cif_sliceProj rt fun h0 ys hy => ⟨((hs lv hlv).2 h0 ys hy).1, fun x hx =>
        rhs_convF r hc x (pySlice_json (hy ▸ (hs lv hlv).1) x hx) (((hs lv hlv).2 h0 ys hy).2 x hx) off⟩
  | .filterL p r, hc, left, d, sl, off, hd, hl, hs => by
    simp only [SemFull.ledOk, Bool.and_eq_true] at hc
    refine (cif_proj rt (f := fun x => match SemFull.expr x p with
      | none => none
      | some c => if Sem.truthy c then SemFull.rhs x r else some .null) hl ?_).congr rt ?_
    rotate_left
    · cases sl with
      | none => rfl
      | some lv => cases lv <;> rfl
    · intro xs hxs x hx
      have hxj := arr_json.mp (hs _ hxs).1 x hx
      have hsafe := (hs _ hxs).2
      simp only [SafeF.led] at hsafe
      have hsx := hsafe xs rfl x hx
      refine (cif_condition rt (expr_convF p hc.1 x hxj hsx.1 off)
        (st := SemFull.rhs x r) (fun c hcv ht => rhs_convF r hc.2 x hxj (hsx.2 c hcv ?_) off)).congr rt ?_
      · rw [← truthy_eq c (expr_jsonF p hc.1 x hxj c hcv)]; exact ht
      · cases hcv : SemFull.expr x p with
        | none => rfl
        | some c => simp [truthy_eq c (expr_jsonF p hc.1 x hxj c hcv)]
theorem rhs_convF : ∀ r : Rhs, SemFull.rhsOk r = true → ∀ el : Val, el.isJson = true →
    SafeF.rhs el r → ∀ off : Nat, CIF rt el r.ast off (SemFull.rhs el r)
  | .none, _, el, _, _, off => cif_identity rt el 0 off
  | .dot dr, hc, el, hel, hs, off =>
    dot_convF dr hc el hel hs off
  | .bracket e, hc, el, hel, hs, off =>
    expr_convF e hc el hel hs off
theorem dot_convF : ∀ dr : DotRhs, SemFull.dotOk dr = true → ∀ el : Val, el.isJson = true →
    SafeF.dot el dr → ∀ off : Nat, CIF rt el dr.ast off (SemFull.dot el dr)
  | .mlist es, hc, el, hel, hs, off =>
    cif_multiList rt (fun hn => exprs_convF es hc el hel (hs hn) off)
  | .expr e, hc, el, hel, hs, off =>
    expr_convF e hc el hel hs off
theorem expr_convF : ∀ e : Expr, ExprGoal rt e
  | .mk h ls => expr_ofF rt (nud_convF h) (leds_convF ls)
theorem leds_convF : ∀ ls : List Led, SemFull.ledsOk ls = true → ∀ (left : Ast) (d : Val)
    (sl : Option Val) (off : Nat), d.isJson = true → CIF rt d left off sl →
    (∀ lv, sl = some lv → lv.isJson = true ∧ SafeF.leds d lv ls) →
    CIF rt d (ledsAst left ls) off (sl.bind fun lv => SemFull.leds d lv ls)
  | [], _, left, d, sl, off, hd, hl, _ => by
    simp only [ledsAst]
    refine hl.congr rt ?_
    cases sl <;> simp [SemFull.leds]
  | l :: ls, hc, left, d, sl, off, hd, hl, hs => by
    simp only [SemFull.ledsOk, Bool.and_eq_true] at hc
    simp only [ledsAst]
    have h1 := led_convF l hc.1 left d sl off hd hl (fun lv hlv => ⟨(hs lv hlv).1, (hs lv hlv).2.1⟩)
    refine (leds_convF ls hc.2 (l.ast left) d _ off hd h1 ?_).congr rt ?_
    · intro v hv
      cases sl with
      | none => simp at hv
      | some lv =>
        simp only [Option.bind_some] at hv
        exact ⟨led_jsonF l hc.1 d lv hd (hs lv rfl).1 v hv, (hs lv rfl).2.2 v hv⟩
    · cases sl with
      | none => rfl
      | some lv => simp only [Option.bind_some, SemFull.leds]; cases SemFull.led d lv l <;> rfl
theorem exprs_convF : ∀ es : List Expr, SemFull.exprsOk es = true → ∀ d : Val, d.isJson = true →
    SafeF.exprs d es → ∀ off : Nat, CAF rt d (exprsAst es) off (SemFull.exprs d es)
  | [], _, d, _, _, off => caf_nil rt d off
  | e :: es, hc, d, hd, hs, off => by
    simp only [SemFull.exprsOk, Bool.and_eq_true] at hc; simp only [SafeF.exprs] at hs
    simp only [exprsAst]
    refine (caf_cons rt (expr_convF e hc.1 d hd hs.1 off) (fun _ _ => exprs_convF es hc.2 d hd hs.2 off)).congr rt ?_
    simp only [SemFull.exprs]
    cases SemFull.expr d e <;> rfl
theorem kvs_convF : ∀ kvs : List (Bool × String × Expr), SemFull.kvsOk kvs = true → ∀ d : Val,
    d.isJson = true → SafeF.kvs d kvs → ∀ (acc : List (String × Val)) (off : Nat),
    CKF rt d (kvsAst kvs) acc off (SemFull.kvs' d kvs acc)
  | [], _, d, _, _, acc, off => ckf_nil rt d acc off
  | (_, k, e) :: r, hc, d, hd, hs, acc, off => by
    simp only [SemFull.kvsOk, Bool.and_eq_true] at hc; simp only [SafeF.kvs] at hs
    simp only [kvsAst]
    refine (ckf_cons rt (g := fun v => SemFull.kvs' d r (insertKV k v acc)) (expr_convF e hc.1 d hd hs.1 off)
      (fun v _ => kvs_convF r hc.2 d hd hs.2 _ off)).congr rt ?_
    simp only [SemFull.kvs']
    cases SemFull.expr d e <;> rfl
/-- the body of an `&e` argument converges to the closure, on every JSON element, at every offset -/
theorem nud_fnF : ∀ h : Nud, FnGoal rt h
  | _, e, rfl => expr_convF e
theorem args_convF : ∀ es : List Expr, ArgsGoal rt es
  | [] => args_nilF rt
  | .mk h ls :: rest => args_consF rt h ls rest (nud_convF h) (nud_fnF h) (leds_convF ls) (args_convF rest)
end

end conv

mutual
theorem Ast.strip_strip : ∀ a : Ast, a.strip.strip = a.strip
  | .comparison _ _ l r => by simp [Ast.strip, Ast.strip_strip l, Ast.strip_strip r]
  | .condition _ p t => by simp [Ast.strip, Ast.strip_strip p, Ast.strip_strip t]
  | .identity _ => rfl
  | .expref _ a => by simp [Ast.strip, Ast.strip_strip a]
  | .flatten _ a => by simp [Ast.strip, Ast.strip_strip a]
  | .function _ _ args => by simp [Ast.strip, stripList_stripList args]
  | .field _ _ => rfl
  | .index _ _ => rfl
  | .literal _ _ => rfl
  | .multiList _ es => by simp [Ast.strip, stripList_stripList es]
  | .multiHash _ kvs => by simp [Ast.strip, stripKVs_stripKVs kvs]
  | .not _ a => by simp [Ast.strip, Ast.strip_strip a]
  | .projection _ l r => by simp [Ast.strip, Ast.strip_strip l, Ast.strip_strip r]
  | .objectValues _ a => by simp [Ast.strip, Ast.strip_strip a]
  | .and _ l r => by simp [Ast.strip, Ast.strip_strip l, Ast.strip_strip r]
  | .or _ l r => by simp [Ast.strip, Ast.strip_strip l, Ast.strip_strip r]
  | .slice _ _ _ _ => rfl
  | .subexpr _ l r => by simp [Ast.strip, Ast.strip_strip l, Ast.strip_strip r]
theorem stripList_stripList : ∀ es : List Ast, stripList (stripList es) = stripList es
  | [] => rfl
  | a :: rest => by simp [stripList, Ast.strip_strip a, stripList_stripList rest]
theorem stripKVs_stripKVs : ∀ kvs : List (String × Ast), stripKVs (stripKVs kvs) = stripKVs kvs
  | [] => rfl
  | (k, a) :: rest => by simp [stripKVs, Ast.strip_strip a, stripKVs_stripKVs rest]
end

theorem resultOfF_of_agrees {r : ERes Val} {s : Option Val} {off : Nat} (h : AgreesF r s off) :
    resultOfF r = some s := by
  cases s with
  | none => obtain ⟨e, rfl, hg⟩ := h; simp [resultOfF, hg]
  | some v => simp only [AgreesF] at h; subst h; rfl

/-- **Conformance to the full semantics, exact side condition, any registry that binds exactly the
26 builtin names.**  For every covered expression `e`, every tree equal to `e`'s tree up to
offsets, every JSON document and initial offset: if every array a slice is applied to while
evaluating `e` on `d` (including inside the functions applied by `map` / `sort_by` / `max_by` /
`min_by`) has at most `i32::MAX` elements (`SafeF`), then with enough fuel the interpreter returns
the value the semantics assigns, or a `JmespathError` exactly when the semantics says "error" —
never a panic, never a different value. -/
theorem C01_conformance_full_rt (rt : Registry)
    (hrt : ∀ n, rt.get n = (SemFull.builtinOf n).map Fn.builtin)
    (e : Expr) (hc : SemFull.exprOk e = true) (a : Ast) (ha : a.strip = e.ast) (d : Val)
    (hd : d.isJson = true) (hs : SafeF.expr d e) (off : Nat) :
    ∃ n, ∀ fuel, n ≤ fuel → resultOfF (interp rt fuel d a off) = some (SemFull.expr d e) := by
  have ha' : a.strip = e.ast.strip := by rw [← ha, Ast.strip_strip]
  obtain ⟨n, hn⟩ := expr_convF rt hrt e hc d hd hs off a ha'
  exact ⟨n, fun fuel hf => resultOfF_of_agrees (hn fuel hf)⟩

/-- the same for the default runtime (`DEFAULT_RUNTIME`) -/
theorem C01_conformance_full_safe (e : Expr) (hc : SemFull.exprOk e = true) (a : Ast)
    (ha : a.strip = e.ast) (d : Val) (hd : d.isJson = true) (hs : SafeF.expr d e) (off : Nat) :
    ∃ n, ∀ fuel, n ≤ fuel →
      resultOfF (interp Registry.default fuel d a off) = some (SemFull.expr d e) :=
  C01_conformance_full_rt Registry.default default_get e hc a ha d hd hs off

/-- **general width form**: `b` bounds the member count of every array and object in the
document; `e.wbF b` then bounds every array that can arise during evaluation, function results
included -/
theorem C01_conformance_full_within (e : Expr) (hc : SemFull.exprOk e = true) (a : Ast)
    (ha : a.strip = e.ast) (d : Val) (hd : d.isJson = true) (b : Nat) (hw : d.Within b)
    (hb : e.wbF b ≤ 2147483647) (off : Nat) :
    ∃ n, ∀ fuel, n ≤ fuel →
      resultOfF (interp Registry.default fuel d a off) = some (SemFull.expr d e) :=
  C01_conformance_full_safe e hc a ha d hd (exprF_w e b d hw hb).1 off

/-- **C01 conformance, full language.**  For every covered expression `e` (`SemFull.exprOk`: core
forms, calls, `&e` only as a direct argument in an expref-typed parameter position), every tree `a`
equal to `e`'s tree up to offsets, every JSON document `d` and initial `ctx.offset`: provided the
computable width bound `e.wbF d.width` does not exceed `i32::MAX`, the interpreter with the default
runtime, given enough fuel, returns exactly the value `SemFull` assigns — or a `JmespathError`
exactly when `SemFull` says the expression is an error — and never panics. -/
theorem C01_conformance_full (e : Expr) (hc : SemFull.exprOk e = true) (a : Ast)
    (ha : a.strip = e.ast) (d : Val) (hd : d.isJson = true)
    (hb : e.wbF d.width ≤ 2147483647) (off : Nat) :
    ∃ n, ∀ fuel, n ≤ fuel →
      resultOfF (interp Registry.default fuel d a off) = some (SemFull.expr d e) :=
  C01_conformance_full_within e hc a ha d hd d.width d.within_width hb off

end JmesVerif

#print axioms JmesVerif.C01_conformance_full_rt
#print axioms JmesVerif.C01_conformance_full
