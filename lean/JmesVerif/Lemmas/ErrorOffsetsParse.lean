import JmesVerif.Lemmas.ErrorOffsetsLit
import JmesVerif.Lemmas.ParserSound
/-!
# The parser only builds trees whose literals are JSON values

`JsonText.parse` (the model of `Variable::from_json`) returns JSON values, so every literal token
of the lexer holds one; the tree built by the parser has exactly the literals of its token list
(through `T1_parseTokens`: `a.strip = e.ast`, `tk ts = e.toks …`).
-/
namespace JmesVerif
open Parser

namespace JsonText

theorem numVal_json (n : PNum) : (numVal n).isJson = true := by cases n <;> simp [numVal]

theorem parse_json_all : ∀ fuel : Nat,
    (∀ depth cs v r, parseValue fuel depth cs = some (v, r) → v.isJson = true) ∧
    (∀ depth cs acc xs r, parseElems fuel depth cs acc = some (xs, r) → (∀ a ∈ acc, a.isJson = true) →
      ∀ x ∈ xs, x.isJson = true) ∧
    (∀ depth cs acc kvs r, parseMembers fuel depth cs acc = some (kvs, r) → (∀ p ∈ acc, p.2.isJson = true) →
      ∀ p ∈ kvs, p.2.isJson = true) := by
  intro fuel
  induction fuel with
  | zero => simp [parseValue, parseElems, parseMembers]
  | succ n ih =>
    obtain ⟨ihV, ihE, ihM⟩ := ih
    refine ⟨?_, ?_, ?_⟩
    · intro depth cs v r h
      rw [parseValue] at h
      split at h
      all_goals (try (simp only [Option.map_eq_some_iff] at h; obtain ⟨x, _, hx⟩ := h;
                      simp only [Prod.mk.injEq] at hx; obtain ⟨rfl, _⟩ := hx;
                      first | simp | exact numVal_json _))
      · split at h
        · simp at h
        · split at h
          · simp at h; rw [← h.1]; simp
          · simp only [Option.map_eq_some_iff] at h
            obtain ⟨⟨xs, r'⟩, hx, heq⟩ := h
            simp only [Prod.mk.injEq] at heq; obtain ⟨rfl, _⟩ := heq
            rw [arr_json]
            exact ihE _ _ _ _ _ hx (by simp)
      · split at h
        · simp at h
        · split at h
          · simp at h; rw [← h.1]; simp
          · simp only [Option.map_eq_some_iff] at h
            obtain ⟨⟨xs, r'⟩, hx, heq⟩ := h
            simp only [Prod.mk.injEq] at heq; obtain ⟨rfl, _⟩ := heq
            rw [obj_json]
            exact ihM _ _ _ _ _ hx (by simp)
      · split at h
        · simp only [Option.map_eq_some_iff] at h
          obtain ⟨x, _, hx⟩ := h
          simp only [Prod.mk.injEq] at hx; obtain ⟨rfl, _⟩ := hx
          exact numVal_json _
        · simp at h
      · simp at h
    · intro depth cs acc xs r h hacc
      rw [parseElems] at h
      split at h
      · simp at h
      · rename_i v r' hv
        have hvj := ihV _ _ _ _ hv
        have hacc' : ∀ a ∈ v :: acc, a.isJson = true := by
          intro a ha; rcases List.mem_cons.1 ha with rfl | ha
          · exact hvj
          · exact hacc a ha
        split at h
        · exact ihE _ _ _ _ _ h hacc'
        · simp only [Option.some.injEq, Prod.mk.injEq] at h
          obtain ⟨rfl, _⟩ := h
          intro x hx
          exact hacc' x (by simp at hx ⊢; exact hx.symm)
        · simp at h
    · intro depth cs acc kvs r h hacc
      rw [parseMembers] at h
      split at h
      · split at h
        · simp at h
        · split at h
          · split at h
            · simp at h
            · rename_i v r' hv
              have hvj := ihV _ _ _ _ hv
              have hacc' := fun k => forall_mem_insertKV (R := fun v => Val.isJson v = true) (k := k) hvj hacc
              simp only at h
              split at h
              · exact ihM _ _ _ _ _ h (hacc' _)
              · simp only [Option.some.injEq, Prod.mk.injEq] at h
                obtain ⟨rfl, _⟩ := h
                exact hacc' _
              · simp at h
          · simp at h
      · simp at h

theorem parse_json (cs : List Char) (v : Val) (h : parse cs = some v) : v.isJson = true := by
  unfold parse at h
  split at h
  · rename_i v' rest hv
    split at h
    · simp at h; subst h; exact (parse_json_all _).1 _ _ _ _ hv
    · simp at h
  · simp at h

end JsonText

/-- a literal token holds a JSON value -/
def Tok.litJson : Tok → Bool
  | .literal v => v.isJson
  | _ => true

theorem lexOne_litJson (pos : Nat) (c : Char) (cs : List Char) (t : Tok) (r : List Char)
    (h : Lexer.lexOne pos c cs = .ok (some t, r)) : t.litJson = true := by
  cases lexOne_step h with
  | one _ ht | two _ _ ht => cases t <;> first | rfl | cases ht
  | literal _ hp => exact JsonText.parse_json _ _ hp
  | _ => rfl

theorem lexLoop_litJson (total : Nat) : ∀ (fuel : Nat) (cs : List Char) (acc : List (Nat × Tok)) (ts : List (Nat × Tok)),
    (∀ pt ∈ acc, pt.2.litJson = true) → Lexer.loop total fuel cs acc = .ok ts →
    ∀ pt ∈ ts, pt.2.litJson = true := by
  intro fuel
  induction fuel with
  | zero => intro cs acc ts _ h; simp [Lexer.loop] at h
  | succ n ih =>
    intro cs acc ts hacc h
    cases cs with
    | nil =>
      simp [Lexer.loop] at h
      subst h
      intro pt hpt
      simp at hpt
      rcases hpt with hpt | rfl
      · exact hacc _ hpt
      · rfl
    | cons c cs' =>
      simp only [Lexer.loop] at h
      split at h
      · simp at h
      · rename_i t r hlex
        refine ih r _ ts ?_ h
        intro pt hpt
        rcases List.mem_cons.mp hpt with rfl | hpt
        · exact lexOne_litJson _ _ _ _ _ hlex
        · exact hacc _ hpt
      · exact ih _ _ ts hacc h

theorem tokenize_litJson (cs : List Char) (ts : List PT) (h : tokenize cs = .ok ts) :
    ∀ pt ∈ ts, pt.2.litJson = true :=
  lexLoop_litJson _ _ _ _ _ (by simp) h

def toksLit (ts : List Tok) : Prop := ∀ t ∈ ts, t.litJson = true

theorem toksLit.tail {t : Tok} {ts : List Tok} (h : toksLit (t :: ts)) : toksLit ts :=
  fun x hx => h x (.tail _ hx)
theorem toksLit.left {a b : List Tok} (h : toksLit (a ++ b)) : toksLit a :=
  fun x hx => h x (List.mem_append_left _ hx)
theorem toksLit.right {a b : List Tok} (h : toksLit (a ++ b)) : toksLit b :=
  fun x hx => h x (List.mem_append_right _ hx)

/- Each arm passes the part of the yield that belongs to a subtree to the recursive call; the
goal unfolds to the conjunction (`&&`) of the subtrees' `LitJson`, constant nodes giving `true`. -/
mutual
theorem Nud.ast_litJson : ∀ n : Nud, toksLit n.toks → n.ast.LitJson = true := by
  intro n h
  cases n with
  | «at» | field _ | qfield _ | idx _ => rfl
  | lit v => exact h _ (.head _)
  | call _ args => exact argsAst_litJson args h.tail.tail.left
  | mlist es => exact argsAst_litJson es h.tail.left
  | mhash kvs => exact kvsAst_litJson kvs h.tail.left
  | star r | flatten r => exact Rhs.ast_litJson r h.tail
  | slice hd r => exact Rhs.ast_litJson r h.tail.right.tail
  | wildIdx r => exact Rhs.ast_litJson r h.tail.tail.tail
  | not e | expref e => exact Expr.ast_litJson e h.tail
  | paren e => exact Expr.ast_litJson e h.tail.left
  | filter p r =>
    show (p.ast.LitJson && r.ast.LitJson) = true
    exact Bool.and_eq_true_iff.2 ⟨Expr.ast_litJson p h.tail.left, Rhs.ast_litJson r h.tail.right.tail⟩
theorem Led.ast_litJson : ∀ (l : Led) (left : Ast), left.LitJson = true → toksLit l.toks →
    (l.ast left).LitJson = true := by
  intro l left hl h
  cases l with
  | index _ => exact Bool.and_eq_true_iff.2 ⟨hl, rfl⟩
  | dot d => exact Bool.and_eq_true_iff.2 ⟨hl, DotRhs.ast_litJson d h.tail⟩
  | or e | and e | pipe e | cmp _ e => exact Bool.and_eq_true_iff.2 ⟨hl, Expr.ast_litJson e h.tail⟩
  | flattenL r => exact Bool.and_eq_true_iff.2 ⟨hl, Rhs.ast_litJson r h.tail⟩
  | dotStar r => exact Bool.and_eq_true_iff.2 ⟨hl, Rhs.ast_litJson r h.tail.tail⟩
  | wildIdxL r => exact Bool.and_eq_true_iff.2 ⟨hl, Rhs.ast_litJson r h.tail.tail.tail⟩
  | sliceL hd r => exact Bool.and_eq_true_iff.2 ⟨hl, Rhs.ast_litJson r h.tail.right.tail⟩
  | filterL p r =>
    exact Bool.and_eq_true_iff.2 ⟨hl, Bool.and_eq_true_iff.2
      ⟨Expr.ast_litJson p h.tail.left, Rhs.ast_litJson r h.tail.right.tail⟩⟩
  | callDev args =>
    unfold Led.ast
    split
    · exact argsAst_litJson args h.tail.left
    · exact hl
theorem Rhs.ast_litJson : ∀ r : Rhs, toksLit r.toks → r.ast.LitJson = true := by
  intro r h
  cases r with
  | none => rfl
  | dot d => exact DotRhs.ast_litJson d h.tail
  | bracket e => exact Expr.ast_litJson e h
theorem DotRhs.ast_litJson : ∀ d : DotRhs, toksLit d.toks → d.ast.LitJson = true := by
  intro d h
  cases d with
  | mlist es => exact argsAst_litJson es h.tail.left
  | expr e => exact Expr.ast_litJson e h
theorem Expr.ast_litJson : ∀ e : Expr, toksLit e.toks → e.ast.LitJson = true := by
  intro e h
  cases e with
  | mk hd ls => exact ledsAst_litJson ls hd.ast (Nud.ast_litJson hd h.left) h.right
theorem ledsAst_litJson : ∀ (ls : List Led) (left : Ast), left.LitJson = true → toksLit (ledsToks ls) →
    (ledsAst left ls).LitJson = true := by
  intro ls left hl h
  cases ls with
  | nil => exact hl
  | cons l ls => exact ledsAst_litJson ls _ (Led.ast_litJson l left hl h.left) h.right
theorem argsAst_litJson : ∀ es : List Expr, toksLit (argsToks es) → Ast.litJsonL (exprsAst es) = true := by
  intro es h
  cases es with
  | nil => rfl
  | cons e es => exact Bool.and_eq_true_iff.2 ⟨Expr.ast_litJson e h.left, argsTail_litJson es h.right⟩
theorem argsTail_litJson : ∀ es : List Expr, toksLit (argsTail es) → Ast.litJsonL (exprsAst es) = true := by
  intro es h
  cases es with
  | nil => rfl
  | cons e es =>
    exact Bool.and_eq_true_iff.2 ⟨Expr.ast_litJson e h.tail.left, argsTail_litJson es h.tail.right⟩
theorem kvsAst_litJson : ∀ kvs : List (Bool × String × Expr), toksLit (kvsToks kvs) → Ast.litJsonK (kvsAst kvs) = true := by
  intro kvs h
  cases kvs with
  | nil => rfl
  | cons p r =>
    obtain ⟨q, s, e⟩ := p
    exact Bool.and_eq_true_iff.2 ⟨Expr.ast_litJson e h.tail.tail.left, kvsTail_litJson r h.tail.tail.right⟩
theorem kvsTail_litJson : ∀ kvs : List (Bool × String × Expr), toksLit (kvsTail kvs) → Ast.litJsonK (kvsAst kvs) = true := by
  intro kvs h
  cases kvs with
  | nil => rfl
  | cons p r =>
    obtain ⟨q, s, e⟩ := p
    exact Bool.and_eq_true_iff.2
      ⟨Expr.ast_litJson e h.tail.tail.tail.left, kvsTail_litJson r h.tail.tail.tail.right⟩
end

mutual
theorem Ast.strip_litJson : ∀ a : Ast, a.strip.LitJson = a.LitJson := by
  intro a
  cases a with
  | comparison _ _ l r | condition _ l r | projection _ l r | and _ l r | or _ l r | subexpr _ l r =>
    show (l.strip.LitJson && r.strip.LitJson) = (l.LitJson && r.LitJson)
    rw [Ast.strip_litJson l, Ast.strip_litJson r]
  | expref _ a | flatten _ a | not _ a | objectValues _ a => exact Ast.strip_litJson a
  | function _ _ es | multiList _ es => exact stripList_litJson es
  | multiHash _ kvs => exact stripKVs_litJson kvs
  | identity _ | field _ _ | index _ _ | slice _ _ _ _ | literal _ _ => rfl
theorem stripList_litJson : ∀ as : List Ast, Ast.litJsonL (stripList as) = Ast.litJsonL as := by
  intro as
  cases as with
  | nil => rfl
  | cons a as =>
    show (a.strip.LitJson && Ast.litJsonL (stripList as)) = (a.LitJson && Ast.litJsonL as)
    rw [Ast.strip_litJson a, stripList_litJson as]
theorem stripKVs_litJson : ∀ as : List (String × Ast), Ast.litJsonK (stripKVs as) = Ast.litJsonK as := by
  intro as
  cases as with
  | nil => rfl
  | cons p as =>
    show (p.2.strip.LitJson && Ast.litJsonK (stripKVs as)) = (p.2.LitJson && Ast.litJsonK as)
    rw [Ast.strip_litJson p.2, stripKVs_litJson as]
end

/-- the parser builds trees whose literals are the literal tokens it was given -/
theorem parseTokens_litJson (ts : List PT) (e : Expr) (a : Ast) (h : parseTokens ts = .ok (e, a))
    (hts : ∀ pt ∈ ts, pt.2.litJson = true) : a.LitJson = true := by
  obtain ⟨hy, _, hs⟩ := T1_parseTokens ts e a h
  rw [← Ast.strip_litJson, hs]
  apply Expr.ast_litJson
  intro t ht
  have : t ∈ tk ts := by
    rcases hy with hy | hy <;> rw [hy] <;> simp [ht]
  simp only [tk, List.mem_map] at this
  obtain ⟨pt, hpt, rfl⟩ := this
  exact hts pt hpt

/-- every tree `parseExpr` returns has JSON literals only -/
theorem parseExpr_litJson (cs : List Char) (e : Expr) (a : Ast) (h : parseExpr cs = .ok (e, a)) :
    a.LitJson = true := by
  unfold parseExpr at h
  split at h
  · simp at h
  · rename_i ts hts
    split at h
    · simp at h
    · rename_i r hr
      simp only [Except.ok.injEq] at h; subst h
      exact parseTokens_litJson ts e a hr (tokenize_litJson cs ts hts)

end JmesVerif
