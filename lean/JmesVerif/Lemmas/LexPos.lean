import JmesVerif.Lemmas.Lexer
/-!
Lexer positions are truthful: every token position, and the position of a lexer error, is the byte
length of a prefix of the expression (`IsBoundary`).
-/
namespace JmesVerif

/-- `p` is the byte length of a prefix of `cs`: a character boundary, ≤ the byte length of `cs` -/
def IsBoundary (cs : List Char) (p : Nat) : Prop :=
  ∃ pre suf, cs = pre ++ suf ∧ p = Lexer.utf8Len pre

namespace LexPos

theorem utf8Len_append (a b : List Char) :
    Lexer.utf8Len (a ++ b) = Lexer.utf8Len a + Lexer.utf8Len b := by
  induction a with
  | nil => simp [Lexer.utf8Len]
  | cons c a ih => simp [Lexer.utf8Len, ih, Nat.add_assoc]

theorem isBoundary_of_suffix (input pre suf : List Char) (h : input = pre ++ suf) :
    IsBoundary input (Lexer.utf8Len input - Lexer.utf8Len suf) :=
  ⟨pre, suf, h, by subst h; rw [utf8Len_append]; omega⟩

theorem lexLoop_positions (input : List Char) :
    ∀ (fuel : Nat) (cs : List Char) (acc : List (Nat × Tok)),
    (∃ pre, input = pre ++ cs) → (∀ pt ∈ acc, IsBoundary input pt.1) →
    (∀ ts, Lexer.loop (Lexer.utf8Len input) fuel cs acc = .ok ts → ∀ pt ∈ ts, IsBoundary input pt.1) ∧
    (∀ e, Lexer.loop (Lexer.utf8Len input) fuel cs acc = .error e → IsBoundary input e.pos) := by
  intro fuel
  induction fuel with
  | zero =>
    intro cs acc _ _
    refine ⟨by intro ts h; simp [Lexer.loop] at h, ?_⟩
    intro e h
    simp [Lexer.loop] at h
    subst h
    exact ⟨[], input, by simp, by simp [Lexer.utf8Len]⟩
  | succ n ih =>
    intro cs acc hsuf hacc
    obtain ⟨pre, hpre⟩ := hsuf
    cases cs with
    | nil =>
      constructor
      · intro ts h
        simp [Lexer.loop] at h
        subst h
        intro pt hpt
        simp at hpt
        rcases hpt with hpt | rfl
        · exact hacc _ hpt
        · exact ⟨input, [], by simp, rfl⟩
      · intro e h; simp [Lexer.loop] at h
    | cons c cs' =>
      have hb := isBoundary_of_suffix input pre (c :: cs') hpre
      simp only [Lexer.loop]
      split
      · rename_i e' hlex
        refine ⟨by intro ts h; simp at h, ?_⟩
        intro e h
        simp at h; subst h
        rw [lexOne_error_pos hlex]; exact hb
      · rename_i t r hlex
        obtain ⟨mid, hmid⟩ := lexOne_suffix hlex
        refine ih r _ ⟨pre ++ c :: mid, by simp [hpre, hmid]⟩ ?_
        intro pt hpt
        rcases List.mem_cons.mp hpt with rfl | hpt
        · exact hb
        · exact hacc _ hpt
      · rename_i r hlex
        obtain ⟨mid, hmid⟩ := lexOne_suffix hlex
        exact ih r _ ⟨pre ++ c :: mid, by simp [hpre, hmid]⟩ hacc

end LexPos

end JmesVerif
