import JmesVerif.Lemmas.AbnfDev
/-
Soundness of the accepted language with respect to the published ABNF (`Spec/Abnf.lean`):
every tree the parser can build (`Legal`) that uses none of the three language deviations
(F3 `callDev`, F4 multi-select list as a projection's bracket right-hand side, F5 `&e` outside
a function argument) spells a sentence of the published grammar.

The binding-power side conditions of `Legal` play no role (the ABNF is ambiguous: it only says which
token strings are sentences); what is used of `Legal` is: non-empty multi-select lists / hashes,
the head classes of projection right-hand sides (`headIsBracket`, `headIsDot`), and legality of
all sub-trees.
-/
namespace JmesVerif
open GrammarCheck Abnf


theorem cast_pred {P : List Tok → Prop} {a b : List Tok} (h : P a) (e : a = b) : P b := e ▸ h

/-- closing a bracketed form `a s b` that stands after `l` and before `t` -/
theorem append_close (l : List Tok) (a b : Tok) (s t : List Tok) :
    (l ++ a :: (s ++ [b])) ++ t = l ++ a :: (s ++ b :: t) := by simp

theorem optNum_abnf : ∀ o : Option Int, OptNum (optNumToks o)
  | none => .none
  | some n => .some n

theorem slice_bs : ∀ h : SliceHdr, BracketSpecifier (.lbracket :: (h.toks ++ [.rbracket]))
  | ⟨a, b, none⟩ => .slice (.two (optNum_abnf a) (cast_pred (optNum_abnf b) (List.append_nil _).symm))
  | ⟨a, b, some c⟩ => .slice (.three (optNum_abnf a) (optNum_abnf b) (optNum_abnf c))

theorem key_ident : ∀ (q : Bool) (s : String), Ident [keyTok q s]
  | false, s => .unquoted s
  | true, s => .quoted s

theorem cmp_comparator (o : Cmp) : Comparator (cmpTok o) := by
  cases o <;> constructor

/-! ### the mutual family

Every case is the ABNF production of its constructor applied to the results for the sub-trees; `Legal`, the deviation count
and the yield of a constructor unfold by computation, so the hypotheses are passed on as they are.  What is left to say is
how the token strings re-associate (`List.append_assoc`, `append_close`). -/

mutual
/-- a head other than `&e` is an expression -/
theorem nud_sound : ∀ h : Nud, h.Legal → (nudDev h).languageClean → h.isExpref = false →
    Expression h.toks
  | .at, _, _, _ => .currentNode
  | .field s, _, _, _ => .identifier (.unquoted s)
  | .qfield s, _, _, _ => .identifier (.quoted s)
  | .call s args, hl, hd, _ => .function (call_sound args s hl hd)
  | .lit v, _, _, _ => .literal v
  | .star r, hl, hd, _ => rhs_sound r 20 hl hd [.star] .star
  | .idx n, _, _, _ => .bracket (.number n)
  | .slice h r, hl, hd, _ =>
    cast_pred (rhs_sound r 20 hl hd _ (.bracket (slice_bs h))) (append_close [] ..)
  | .wildIdx r, hl, hd, _ => rhs_sound r 20 hl hd _ (.bracket .star)
  | .mlist es, hl, hd, _ => .multiSelectList (mlist_sound es hl.1 hl.2.2 hd)
  | .flatten r, hl, hd, _ => rhs_sound r 9 hl hd _ (.bracket .flatten)
  | .mhash kvs, hl, hd, _ => .multiSelectHash (mhash_sound kvs hl.1 hl.2 hd)
  | .not e, hl, hd, _ => .not (abnf_sound e 45 hl hd)
  | .filter p r, hl, hd, _ =>
    have hd := (Dev.clean_add ..).1 hd
    cast_pred (rhs_sound r 21 hl.2 hd.2 _ (.bracket (.filter (abnf_sound p 0 hl.1 hd.1))))
      (append_close [] ..)
  | .paren e, hl, hd, _ => .paren (abnf_sound e 0 hl hd)
  | .expref _, _, _, hx => nomatch hx
/-- `&e` as a function argument -/
theorem nud_arg : ∀ h : Nud, h.Legal → (nudDev h).languageClean → h.isExpref = true →
    FunctionArg h.toks := by
  intro h hl hd hx
  cases h with
  | expref e => exact .expressionType (abnf_sound e 0 hl hd)
  | _ => cases hx
/-- a head that may follow a dot extends what is on the left of the dot (`sub-expression`) -/
theorem nud_dot : ∀ h : Nud, h.Legal → (nudDev h).languageClean → h.isDotHead = true →
    h.isExpref = false → ∀ l : List Tok, Expression l → Expression (l ++ .dot :: h.toks) := by
  intro h hl hd hb hx l hL
  cases h with
  | field s => exact .sub hL (.identifier (.unquoted s))
  | qfield s => exact .sub hL (.identifier (.quoted s))
  | call s args => exact .sub hL (.function (call_sound args s hl hd))
  | star r => exact cast_pred (rhs_sound r 20 hl hd _ (.sub hL .star)) (List.append_assoc ..)
  | mhash kvs => exact .sub hL (.multiSelectHash (mhash_sound kvs hl.1 hl.2 hd))
  | _ => cases hb <;> cases hx
/-- a bracket head other than a multi-select list extends what is on its left (`index-expression`) -/
theorem nud_br : ∀ h : Nud, h.Legal → (nudDev h).languageClean → h.isBracketHead = true →
    h.isMlist = false → ∀ l : List Tok, Expression l → Expression (l ++ h.toks) := by
  intro h hl hd hb hx l hL
  cases h with
  | idx n => exact .index hL (.number n)
  | slice h r =>
    exact cast_pred (rhs_sound r 20 hl hd _ (.index hL (slice_bs h))) (append_close ..)
  | wildIdx r => exact cast_pred (rhs_sound r 20 hl hd _ (.index hL .star)) (List.append_assoc ..)
  | filter p r =>
    have hd := (Dev.clean_add ..).1 hd
    exact cast_pred (rhs_sound r 21 hl.2 hd.2 _ (.index hL (.filter (abnf_sound p 0 hl.1 hd.1))))
      (append_close ..)
  | _ => cases hb <;> cases hx
/-- every application is an ABNF construct applied to everything on its left -/
theorem led_sound : ∀ x : Led, x.Legal → (ledDev x).languageClean →
    ∀ l : List Tok, Expression l → Expression (l ++ x.toks)
  | .dotStar r, hl, hd, _, hL =>
    cast_pred (rhs_sound r 20 hl hd _ (.sub hL .star)) (List.append_assoc ..)
  | .dot d, hl, hd, l, hL => dot_sound d 40 hl.1 hd l hL
  | .index n, _, _, _, hL => .index hL (.number n)
  | .sliceL h r, hl, hd, _, hL =>
    cast_pred (rhs_sound r 20 hl hd _ (.index hL (slice_bs h))) (append_close ..)
  | .wildIdxL r, hl, hd, _, hL =>
    cast_pred (rhs_sound r 20 hl hd _ (.index hL .star)) (List.append_assoc ..)
  | .or e, hl, hd, _, hL => .or hL (abnf_sound e 2 hl hd)
  | .and e, hl, hd, _, hL => .and hL (abnf_sound e 3 hl hd)
  | .pipe e, hl, hd, _, hL => .pipe hL (abnf_sound e 1 hl hd)
  | .cmp o e, hl, hd, _, hL => .comparator hL (cmp_comparator o) (abnf_sound e 5 hl hd)
  | .flattenL r, hl, hd, _, hL =>
    cast_pred (rhs_sound r 9 hl hd _ (.index hL .flatten)) (List.append_assoc ..)
  | .filterL p r, hl, hd, _, hL =>
    have hd := (Dev.clean_add ..).1 hd
    cast_pred (rhs_sound r 21 hl.2 hd.2 _ (.index hL (.filter (abnf_sound p 0 hl.1 hd.1))))
      (append_close ..)
  | .callDev _, _, hd, _, _ => absurd ((Dev.clean_add ..).1 hd).2 Dev.not_clean_f3
/-- the application list as a whole extends the left token string -/
theorem leds_sound : ∀ (ls : List Led) (rbp f : Nat), chain rbp f ls → (ledsDev ls).languageClean →
    ∀ l : List Tok, Expression l → Expression (l ++ ledsToks ls)
  | [], _, _, _, _, l, hL => cast_pred hL (List.append_nil l).symm
  | x :: xs, rbp, _, hc, hd, l, hL =>
    have hd := (Dev.clean_add ..).1 hd
    cast_pred (leds_sound xs rbp x.follow hc.2.2.2 hd.2 _ (led_sound x hc.2.2.1 hd.1 l hL))
      (List.append_assoc ..)
/-- a projection's right-hand side extends the token string on its left -/
theorem rhs_sound : ∀ (r : Rhs) (k : Nat), r.Legal k → (rhsDev r).languageClean →
    ∀ l : List Tok, Expression l → Expression (l ++ r.toks)
  | .none, _, _, _, l, hL => cast_pred hL (List.append_nil l).symm
  | .dot d, k, hl, hd, l, hL => dot_sound d k hl hd l hL
  | .bracket e, k, hl, hd, l, hL => expr_br e k hl.1 hl.2 hd l hL
theorem dot_sound : ∀ (d : DotRhs) (k : Nat), d.Legal k → (dotDev d).languageClean →
    ∀ l : List Tok, Expression l → Expression (l ++ .dot :: d.toks)
  | .mlist es, _, hl, hd, _, hL => .sub hL (.multiSelectList (mlist_sound es hl.1 hl.2 hd))
  | .expr e, k, hl, hd, l, hL => expr_dot e k hl.1 hl.2 hd l hL
theorem abnf_sound : ∀ (e : Expr) (k : Nat), e.Legal k → (exprDev false e).languageClean →
    Expression e.toks
  | .mk h ls, k, hl, hd =>
    have ⟨hn, hls, hx⟩ := (exprDev_false_clean h ls).1 hd
    leds_sound ls k h.follow hl.2.1 hls _ (nud_sound h hl.1 hn hx)
theorem expr_dot : ∀ (e : Expr) (k : Nat), e.Legal k → e.headIsDot = true →
    (exprDev false e).languageClean →
    ∀ l : List Tok, Expression l → Expression (l ++ .dot :: e.toks)
  | .mk h ls, k, hl, hb, hd, l, hL =>
    have ⟨hn, hls, hx⟩ := (exprDev_false_clean h ls).1 hd
    cast_pred (leds_sound ls k h.follow hl.2.1 hls _ (nud_dot h hl.1 hn hb hx l hL))
      (List.append_assoc ..)
theorem expr_br : ∀ (e : Expr) (k : Nat), e.Legal k → e.headIsBracket = true →
    (rhsDev (.bracket e)).languageClean →
    ∀ l : List Tok, Expression l → Expression (l ++ e.toks)
  | .mk h ls, k, hl, hb, hd, l, hL =>
    have ⟨hd, hm⟩ := (rhsDev_bracket_clean h ls).1 hd
    have ⟨hn, hls, _⟩ := (exprDev_false_clean h ls).1 hd
    cast_pred (leds_sound ls k h.follow hl.2.1 hls _ (nud_br h hl.1 hn hb hm l hL))
      (List.append_assoc ..)
/-- a function argument: an expression, or `&e` with nothing applied to it -/
theorem arg_sound : ∀ (e : Expr) (k : Nat), e.Legal k → (exprDev true e).languageClean →
    FunctionArg e.toks
  | .mk h ls, k, hl, hd => by
    obtain ⟨hn, hls, hx⟩ := exprDev_true_clean h ls hd
    cases hh : h.isExpref with
    | false => exact .expression (leds_sound ls k h.follow hl.2.1 hls _ (nud_sound h hl.1 hn hh))
    | true =>
      cases hx hh
      exact cast_pred (nud_arg h hl.1 hn hh) (List.append_nil _).symm
/-- `e (, e)*` continued: elements of a multi-select list -/
theorem elemsTail_sound : ∀ es : List Expr, argsLegal es → (argsDev false es).languageClean →
    ∀ e : List Tok, Expression e → ExprList (e ++ argsTail es)
  | [], _, _, e, he => cast_pred (.one he) (List.append_nil e).symm
  | x :: xs, hl, hd, _, he =>
    have hd := (Dev.clean_add ..).1 hd
    .cons he (elemsTail_sound xs hl.2 hd.2 _ (abnf_sound x 0 hl.1 hd.1))
/-- `a (, a)*` continued: function arguments -/
theorem fnTail_sound : ∀ es : List Expr, argsLegal es → (argsDev true es).languageClean →
    ∀ a : List Tok, FunctionArg a → ArgList (a ++ argsTail es)
  | [], _, _, a, ha => cast_pred (.one ha) (List.append_nil a).symm
  | x :: xs, hl, hd, _, ha =>
    have hd := (Dev.clean_add ..).1 hd
    .cons ha (fnTail_sound xs hl.2 hd.2 _ (arg_sound x 0 hl.1 hd.1))
theorem call_sound : ∀ (args : List Expr) (s : String), argsLegal args →
    (argsDev true args).languageClean →
    FunctionExpression (.identifier s :: .lparen :: (argsToks args ++ [.rparen]))
  | [], s, _, _ => .noArgs s
  | x :: xs, s, hl, hd =>
    have hd := (Dev.clean_add ..).1 hd
    .args s (fnTail_sound xs hl.2 hd.2 _ (arg_sound x 0 hl.1 hd.1))
theorem mlist_sound : ∀ es : List Expr, es ≠ [] → argsLegal es → (argsDev false es).languageClean →
    MultiSelectList (.lbracket :: (argsToks es ++ [.rbracket]))
  | [], hne, _, _ => absurd rfl hne
  | x :: xs, _, hl, hd =>
    have hd := (Dev.clean_add ..).1 hd
    .mk (elemsTail_sound xs hl.2 hd.2 _ (abnf_sound x 0 hl.1 hd.1))
/-- `k : e (, k : e)*` continued -/
theorem kvsTail_sound : ∀ r : List (Bool × String × Expr), kvsLegal r → (kvsDev r).languageClean →
    ∀ k e : List Tok, Ident k → Expression e → KeyvalList (k ++ .colon :: (e ++ kvsTail r))
  | [], _, _, _, e, hk, he => .one hk (cast_pred he (List.append_nil e).symm)
  | (q, s, x) :: r, hl, hd, _, _, hk, he =>
    have hd := (Dev.clean_add ..).1 hd
    .cons hk he (kvsTail_sound r hl.2 hd.2 [keyTok q s] _ (key_ident q s) (abnf_sound x 0 hl.1 hd.1))
theorem mhash_sound : ∀ kvs : List (Bool × String × Expr), kvs ≠ [] → kvsLegal kvs →
    (kvsDev kvs).languageClean → MultiSelectHash (.lbrace :: (kvsToks kvs ++ [.rbrace]))
  | [], hne, _, _ => absurd rfl hne
  | (q, s, x) :: r, _, hl, hd =>
    have hd := (Dev.clean_add ..).1 hd
    .mk (kvsTail_sound r hl.2 hd.2 [keyTok q s] _ (key_ident q s) (abnf_sound x 0 hl.1 hd.1))
end

/-- the same for a function argument (where `&e` is grammatical) -/
theorem abnf_sound_arg (e : Expr) (rbp : Nat) (hl : e.Legal rbp)
    (hd : (GrammarCheck.exprDev true e).languageClean) : Abnf.FunctionArg e.toks :=
  arg_sound e rbp hl hd

/-! ### non-vacuity: `a[*].b || !c` -/

/-- the tree of `a[*].b || !c` -/
def abnfExample : Expr :=
  .mk (.field "a")
    [.wildIdxL (.dot (.expr (.mk (.field "b") []))),
     .or (.mk (.not (.mk (.field "c") [])) [])]

/-- the hypotheses of `abnf_sound` hold for `a[*].b || !c`, and its token string is derived -/
theorem abnfExample_sentence : Abnf.Expression
    [.identifier "a", .lbracket, .star, .rbracket, .dot, .identifier "b", .or, .not, .identifier "c"] := by
  have hl : abnfExample.Legal 0 := by
    simp [abnfExample, Expr.Legal, Nud.Legal, Led.Legal, Rhs.Legal, DotRhs.Legal, chain, callDevOk,
      Led.lbp, Led.follow, Nud.follow, Rhs.follow, DotRhs.follow, Expr.follow, ledsFollow, INF,
      Expr.headIsDot, Nud.isDotHead, Led.isCallDev]
  have hc : (exprDev false abnfExample).languageClean := by
    simp [abnfExample, exprDev, nudDev, ledDev, ledsDev, rhsDev, dotDev, Dev.add, Dev.languageClean]
  simpa [abnfExample, Expr.toks, Nud.toks, Led.toks, Rhs.toks, DotRhs.toks, ledsToks]
    using abnf_sound abnfExample 0 hl hc

/-! ### the cleanliness hypothesis is not idle: `&a` (deviation F5) is legal but not an ABNF expression -/

/-- no sentence of `expression` is empty or starts with `&`: the left-recursive productions keep the first token of
their left part, every other production begins with a token of its own -/
theorem Abnf.Expression.head_ne_ampersand : ∀ (ts : List Tok), Abnf.Expression ts →
    ∃ t r, ts = t :: r ∧ t ≠ .ampersand
  | _, .sub he _ | _, .index he _ | _, .comparator he _ _ | _, .or he _ | _, .and he _ | _, .pipe he _ =>
    have ⟨t, _, e, ht⟩ := Abnf.Expression.head_ne_ampersand _ he
    ⟨t, _, congrArg (· ++ _) e, ht⟩
  | _, .bracket hb => by cases hb <;> exact ⟨_, _, rfl, nofun⟩
  | _, .identifier hi => by cases hi <;> exact ⟨_, _, rfl, nofun⟩
  | _, .multiSelectList hm => by cases hm; exact ⟨_, _, rfl, nofun⟩
  | _, .multiSelectHash hm => by cases hm; exact ⟨_, _, rfl, nofun⟩
  | _, .function hf => by cases hf <;> exact ⟨_, _, rfl, nofun⟩
  | _, .not _ | _, .paren _ | _, .star | _, .literal _ | _, .currentNode => ⟨_, _, rfl, nofun⟩

/-- `&a` at top level: legal (the parser accepts it), flagged F5, and not derivable in the ABNF -/
theorem expref_top_not_abnf :
    (Expr.mk (.expref (.mk (.field "a") [])) []).Legal 0 ∧
    ¬ (exprDev false (.mk (.expref (.mk (.field "a") [])) [])).languageClean ∧
    ¬ Abnf.Expression (Expr.mk (.expref (.mk (.field "a") [])) []).toks := by
  refine ⟨?_, ?_, ?_⟩
  · simp [Expr.Legal, Nud.Legal, chain, callDevOk]
  · simp [exprDev, nudDev, ledsDev, Dev.add, Dev.languageClean]
  · intro h
    obtain ⟨t, r, he, ht⟩ := Abnf.Expression.head_ne_ampersand _ h
    simp [Expr.toks, Nud.toks, ledsToks] at he
    exact ht he.1.symm

end JmesVerif

#print axioms JmesVerif.abnf_sound
#print axioms JmesVerif.abnfExample_sentence
