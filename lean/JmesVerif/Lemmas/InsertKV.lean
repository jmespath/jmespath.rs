import JmesVerif.Model.Value
/-!
# `insertKV` (`BTreeMap::insert` on a key-sorted association list)

What an insertion does to membership, to the length, to the order of the keys, to `Val.lookup`, and when it
is an append.
-/
namespace JmesVerif

theorem mem_of_mem_insertKV {β : Type} {k : String} {v : β} {m : List (String × β)} {p : String × β}
    (h : p ∈ insertKV k v m) : p = (k, v) ∨ p ∈ m := by
  induction m with
  | nil => exact .inl (List.mem_singleton.1 h)
  | cons q rest ih =>
    obtain ⟨k', v'⟩ := q
    rw [insertKV] at h
    split at h
    · exact List.mem_cons.1 h
    · split at h
      · exact (List.mem_cons.1 h).imp_right (List.mem_cons_of_mem _)
      · rcases List.mem_cons.1 h with h | h
        · exact .inr (h ▸ List.mem_cons_self)
        · exact (ih h).imp_right (List.mem_cons_of_mem _)

theorem forall_mem_insertKV {β : Type} {R : β → Prop} {k : String} {v : β} {m : List (String × β)}
    (hv : R v) (hm : ∀ p ∈ m, R p.2) : ∀ p ∈ insertKV k v m, R p.2 := by
  intro p hp
  rcases mem_of_mem_insertKV hp with rfl | h
  · exact hv
  · exact hm p h

/-- inserting a key greater than every key present appends -/
theorem insertKV_eq_append {β : Type} (k : String) (v : β) (m : List (String × β))
    (h : ∀ p ∈ m, p.1 < k) : insertKV k v m = m ++ [(k, v)] := by
  induction m with
  | nil => rfl
  | cons q rest ih =>
    obtain ⟨k', v'⟩ := q
    have hk : k' < k := h (k', v') List.mem_cons_self
    rw [insertKV, if_neg (String.lt_asymm hk), if_neg (fun e => String.lt_irrefl _ (e ▸ hk)),
      ih fun p hp => h p (List.mem_cons_of_mem _ hp)]
    rfl

/-- inserting `k` onto an accumulator whose keys lie below `k` and below the keys still to come, all
above `k`, appends, and the accumulator stays below the keys still to come -/
theorem insertKV_below {β γ : Type} {k : String} (v : β) {x : γ} {acc : List (String × β)}
    {r : List (String × γ)} (hacc : ∀ a ∈ acc, ∀ q ∈ (k, x) :: r, a.1 < q.1) (hlt : ∀ q ∈ r, k < q.1) :
    insertKV k v acc = acc ++ [(k, v)] ∧ ∀ a ∈ acc ++ [(k, v)], ∀ q ∈ r, a.1 < q.1 := by
  refine ⟨insertKV_eq_append k v acc fun a ha => hacc a ha (k, x) List.mem_cons_self, fun a ha q hq => ?_⟩
  rcases List.mem_append.1 ha with ha | ha
  · exact hacc a ha q (List.mem_cons_of_mem _ hq)
  · rw [List.mem_singleton.1 ha]; exact hlt q hq

theorem insertKV_len {β : Type} (k : String) (v : β) (acc : List (String × β)) :
    (insertKV k v acc).length ≤ acc.length + 1 := by
  induction acc with
  | nil => exact Nat.le_refl _
  | cons q r ih =>
    rw [insertKV]
    split
    · exact Nat.le_refl _
    · split
      · exact Nat.le_succ _
      · exact Nat.succ_le_succ ih

/-- `BTreeMap::insert` keeps the keys strictly increasing -/
theorem insertKV_sorted {β : Type} (k : String) (v : β) (m : List (String × β))
    (h : m.Pairwise (fun a b => a.1 < b.1)) : (insertKV k v m).Pairwise (fun a b => a.1 < b.1) := by
  induction m with
  | nil => simp [insertKV]
  | cons q rest ih =>
    obtain ⟨k', v'⟩ := q
    rw [List.pairwise_cons] at h
    rw [insertKV]
    split
    · next hlt =>
      exact List.pairwise_cons.2 ⟨List.forall_mem_cons.2 ⟨hlt, fun p hp => String.lt_trans hlt (h.1 p hp)⟩,
        List.pairwise_cons.2 h⟩
    · next hlt =>
      split
      · next heq =>
        subst heq
        exact List.pairwise_cons.2 h
      · next hne =>
        refine List.pairwise_cons.2 ⟨fun p hp => ?_, ih h.2⟩
        rcases mem_of_mem_insertKV hp with rfl | hp
        · exact Decidable.byContradiction fun h' =>
            hne (String.le_antisymm (String.not_lt.1 h') (String.not_lt.1 hlt))
        · exact h.1 p hp

/-- afterwards `k` maps to `v` and every other key to what it mapped to before -/
theorem lookup_insertKV (k k' : String) (v : Val) (m : List (String × Val)) :
    Val.lookup k' (insertKV k v m) = if k' = k then some v else Val.lookup k' m := by
  induction m with
  | nil => simp only [insertKV, Val.lookup, eq_comm]
  | cons q rest ih =>
    obtain ⟨k1, v1⟩ := q
    rw [insertKV]
    split
    · simp only [Val.lookup, eq_comm]
    · split
      · next heq =>
        subst heq
        by_cases h : k = k' <;> simp [Val.lookup, h, eq_comm]
      · next hne =>
        rw [Val.lookup, ih, Val.lookup]
        by_cases h : k' = k
        · simp only [h, if_true, if_neg (Ne.symm hne)]
        · simp only [h, if_false]

end JmesVerif

#print axioms JmesVerif.lookup_insertKV
#print axioms JmesVerif.insertKV_sorted
