import JmesVerif.Generated.ParserCode
import JmesVerif.Lemmas.ParserFuel
import JmesVerif.Lemmas.Lexer
import JmesVerif.Lemmas.ParserSound
/-!
The machine translation of `parser.rs` (`Generated/ParserCode.lean`, regenerated from the Rust source
on every run) computes what the hand-written model `Model/Parser.lean` computes.

The two use fuel differently (the model's `loop` calls `parseList` directly, the code goes through
`led`, `parse_list` and `parse_list_loop`; the model's `parseIndex` runs its token loop on a constant
budget, the code's loop pays one unit per token, ...), so the statement is big-step: whenever the
model with fuel `n` returns something other than `.error .fuel`, the code with ANY fuel `k ≥ 9 * n`
returns the corresponding result (`Sim n`; the `Cst` component is dropped, errors keep their
position).  With `expr_fuel_ok'` (the model never runs out of fuel with `8 * |ts| + 8`) this gives
the fuel-free top-level statements at the end of the file (`parseFuel ts = 72 * |ts| + 72`).

The step proofs refer to the generated functions only by name and argument order (`f.eq_def`)
and to the fixed prelude (`peek`, `advance`, `advance_with_pos`, `err`, `tokEq`, ...): after one
unfolding of both sides they take the token(s) the two functions look at and let both sides compute
— a path that returns is closed by a constructor of `Agrees` up to definitional unfolding, a
sub-call by the rule of the level below (`bind`) — so they do not depend on the order of match arms,
binder names, `let` nesting or `if` orientation of the generated terms.
-/
namespace JmesVerif
namespace ParserEquiv
open Generated.ParserCode

@[simp] theorem peek_zero (ts : List TokenTuple) (off : Nat) : peek ts off 0 = Parser.peekT ts := by
  cases ts with
  | nil => rfl
  | cons pt r => rfl
@[simp] theorem peek_nil (off n : Nat) : peek [] off n = Tok.eof := rfl
@[simp] theorem peek_cons_one (x : TokenTuple) (r : List TokenTuple) (off : Nat) :
    peek (x :: r) off 1 = Parser.peekT r := peek_zero r off
@[simp] theorem awp_cons (p : Nat) (t : Tok) (r : List TokenTuple) (off : Nat) :
    advance_with_pos ((p, t) :: r) off = ((p, t), r, p) := rfl
@[simp] theorem awp_nil (off : Nat) : advance_with_pos [] off = ((off, Tok.eof), [], off) := rfl
@[simp] theorem adv_cons (p : Nat) (t : Tok) (r : List TokenTuple) (off : Nat) :
    advance ((p, t) :: r) off = (t, r, p) := rfl
@[simp] theorem adv_nil (off : Nat) : advance [] off = (Tok.eof, [], off) := rfl
@[simp] theorem err_false (ts : List TokenTuple) (off : Nat) (t : Tok) : err ts off t false = CErr.at off := rfl
@[simp] theorem err_true (ts : List TokenTuple) (off : Nat) (t : Tok) :
    err ts off t true = CErr.at (Parser.peekPos ts off) := by
  cases ts with
  | nil => rfl
  | cons pt r => rfl
theorem stop_eq : PROJECTION_STOP = Parser.projectionStop := rfl
@[simp] theorem peekT_cons (p : Nat) (t : Tok) (r : List PT) : Parser.peekT ((p, t) :: r) = t := rfl
@[simp] theorem peekT_nil : Parser.peekT [] = Tok.eof := rfl
@[simp] theorem peekPos_cons (p : Nat) (t : Tok) (r : List PT) (off : Nat) : Parser.peekPos ((p, t) :: r) off = p := rfl
@[simp] theorem peekPos_nil (off : Nat) : Parser.peekPos [] off = off := rfl

def closingTok : Bool → Tok
  | true => Tok.rparen
  | false => Tok.rbracket

theorem tokEq_closing (paren : Bool) (t : Tok) : tokEq t (closingTok paren) = Parser.isClosing paren t := by
  cases paren <;> cases t <;> rfl
@[simp] theorem tokEq_rparen (t : Tok) : tokEq t Tok.rparen = Parser.isClosing true t := tokEq_closing true t

/-- the `Token::Lparen` arm of `led` is part of the model's `loop` -/
def isLp : Tok → Bool
  | .lparen => true
  | _ => false

/-- The identity.  Around the head of the code's call on the right of a rule of `Sim`, it keeps the rule's
left-hand side from occurring in its right-hand side, so that rewriting with the rule terminates. -/
def hid {α : Sort u} (x : α) : α := x

/-- what the model's result `m` says about the translated code's result `c` -/
def fromModel {ρ α : Type} (f : ρ → α) (m : Except PErr (ρ × List PT × Nat)) (c : PR (Res α)) : PR (Res α) :=
  match m with
  | .error .fuel => c
  | .error (.at p) => (.error (.at p), c.2.1, c.2.2)
  | .ok (r, ts, off) => (.ok (f r), ts, off)

@[simp] theorem fromModel_fuel {ρ α : Type} (f : ρ → α) (c : PR (Res α)) : fromModel f (.error .fuel) c = c := rfl
@[simp] theorem fromModel_at {ρ α : Type} (f : ρ → α) (p : Nat) (c : PR (Res α)) :
    fromModel f (.error (.at p)) c = (.error (.at p), c.2.1, c.2.2) := rfl
@[simp] theorem fromModel_ok {ρ α : Type} (f : ρ → α) (r : ρ) ts off (c : PR (Res α)) :
    fromModel f (.ok (r, ts, off)) c = (.ok (f r), ts, off) := rfl

/-- The rules relating code and model at model fuel `n`, one per function, each of the form
`c = fromModel f m (hid c)`.  The code's result `c` stands on the right as well because `fromModel` hands it
back wherever the model says nothing about it (all of `c` when the model is out of fuel, the state in `c` when
the model fails); the equation is thus `Agrees f m c` (`Agrees.eq`, `Agrees.of_eq`).  It is kept an equation
because an equation can rewrite a sub-call of the code where it stands in a goal; `cases_of` reads it as three cases. -/
structure Sim (n : Nat) : Prop where
  expr : ∀ k, 9 * n ≤ k → ∀ rbp ts off,
    expr k rbp ts off = fromModel Prod.snd (Parser.expr n rbp ts off) (hid (expr k) rbp ts off)
  loop : ∀ k, 9 * n ≤ k → ∀ rbp h acc left ts off m, Parser.loop n rbp h acc left ts off = m →
    expr_loop k rbp (.ok left) ts off = fromModel Prod.snd m (hid (expr_loop k) rbp (.ok left) ts off)
  nud : ∀ k, 9 * n ≤ k → ∀ ts off,
    nud k ts off = fromModel Prod.snd (Parser.nud n ts off) (hid (nud k) ts off)
  led : ∀ k, 9 * n ≤ k → ∀ left ts off, isLp (Parser.peekT ts) = false →
    led k left ts off = fromModel Prod.snd (Parser.led n left ts off) (hid (led k) left ts off)
  parseIndex : ∀ k, 9 * n ≤ k → ∀ ts off,
    parse_index k ts off = fromModel Prod.snd (Parser.parseIndex n ts off) (hid (parse_index k) ts off)
  projRhs : ∀ k, 9 * n ≤ k → ∀ lbp ts off,
    projection_rhs k lbp ts off = fromModel Prod.snd (Parser.projRhs n lbp ts off) (hid (projection_rhs k) lbp ts off)
  parseDot : ∀ k, 9 * n ≤ k → ∀ lbp ts off,
    parse_dot k lbp ts off = fromModel Prod.snd (Parser.parseDot n lbp ts off) (hid (parse_dot k) lbp ts off)
  multiList : ∀ k, 9 * n ≤ k → ∀ ts off,
    parse_multi_list k ts off = fromModel Prod.snd (Parser.multiList n ts off) (hid (parse_multi_list k) ts off)
  parseList : ∀ k, 9 * n ≤ k → ∀ paren ts off es as m, Parser.parseList n paren ts off es as = m →
    parse_list_loop k (closingTok paren) as ts off =
      fromModel Prod.snd m (hid (parse_list_loop k) (closingTok paren) as ts off)
  kvps : ∀ k, 9 * n ≤ k → ∀ offset ts off ks aks m, Parser.kvps n ts off ks aks = m →
    nud_loop k offset aks ts off =
      fromModel (fun r => Ast.multiHash offset r.2) m (hid (nud_loop k) offset aks ts off)
  parseFilter : ∀ k, 9 * n ≤ k → ∀ lhs ts off,
    parse_filter k lhs ts off =
      fromModel (fun r => r.2.2) (Parser.parseFilter n lhs ts off) (hid (parse_filter k) lhs ts off)
  parseFlatten : ∀ k, 9 * n ≤ k → ∀ lhs ts off,
    parse_flatten k lhs ts off = fromModel Prod.snd (Parser.parseFlatten n lhs ts off) (hid (parse_flatten k) lhs ts off)
  wildcardValues : ∀ k, 9 * n ≤ k → ∀ lhs ts off,
    parse_wildcard_values k lhs ts off =
      fromModel Prod.snd (Parser.wildcardValues n lhs ts off) (hid (parse_wildcard_values k) lhs ts off)
  wildcardIndex : ∀ k, 9 * n ≤ k → ∀ lhs ts off,
    parse_wildcard_index k lhs ts off =
      fromModel Prod.snd (Parser.wildcardIndex n lhs ts off) (hid (parse_wildcard_index k) lhs ts off)

/-- What `fromModel f m` demands of the code's result, as a relation between the two results: nothing
when the model ran out of fuel, the error position when the model fails (the code keeps some state
then), the whole result otherwise. -/
inductive Agrees {ρ α : Type} (f : ρ → α) : Except PErr (ρ × List PT × Nat) → PR (Res α) → Prop
  | fuel {c} : Agrees f (.error .fuel) c
  | err {p ts off} : Agrees f (.error (.at p)) (.error (.at p), ts, off)
  | ok {r ts off} : Agrees f (.ok (r, ts, off)) (.ok (f r), ts, off)

theorem Agrees.eq {ρ α : Type} {f : ρ → α} {m c} (h : Agrees f m c) : c = fromModel f m (hid c) := by
  cases h <;> rfl

/-- the three ways a rule of `Sim` can hold, as equations to rewrite a sub-call of both sides with -/
theorem cases_of {ρ α : Type} {f : ρ → α} {m} {c : PR (Res α)} (h : c = fromModel f m (hid c)) :
    m = .error .fuel ∨ (∃ p ts off, m = .error (.at p) ∧ c = (.error (.at p), ts, off)) ∨
      ∃ r ts off, m = .ok (r, ts, off) ∧ c = (.ok (f r), ts, off) := by
  rcases m with (_ | p) | ⟨r, ts, off⟩
  · exact .inl rfl
  · exact .inr (.inl ⟨p, _, _, rfl, h⟩)
  · exact .inr (.inr ⟨r, ts, off, rfl, h⟩)

theorem Agrees.of_eq {ρ α : Type} {f : ρ → α} {m} {c : PR (Res α)} (h : c = fromModel f m (hid c)) :
    Agrees f m c := by
  obtain rfl | ⟨_, _, _, rfl, hc⟩ | ⟨_, _, _, rfl, hc⟩ := cases_of h
  · exact .fuel
  · rw [hc]; exact .err
  · rw [hc]; exact .ok


/-- Rust: `while rbp < self.peek(0).lbp() { left = self.led(Box::new(left?)); } left` — once `left`
is an `Err`, that is the result -/
@[simp] theorem expr_loop_err (k rbp : Nat) (e : CErr) (ts : List TokenTuple) (off : Nat) :
    expr_loop (k+1) rbp (.error e) ts off = (.error e, ts, off) := by
  rw [expr_loop.eq_def]
  simp only
  split <;> rfl

theorem Agrees.loop_err {ρ : Type} {f : ρ → Ast} {k rbp q : Nat} {ts : List PT} {off : Nat} :
    Agrees f (.error (.at q)) (expr_loop (k+1) rbp (.error (.at q)) ts off) := by
  rw [expr_loop_err]; exact .err

/-- the code's primitive steps on a queue whose head is known (`advance`, `peek`, `err`, the token
tests, the binding powers, the three methods that only pass their fuel on) -/
macro "code_step" : tactic => `(tactic| simp only [awp_cons, awp_nil, adv_cons, adv_nil, peek_zero, peek_nil,
  peek_cons_one, peekT_cons, peekT_nil, err_false, err_true, Tok.lbp, Parser.cmpOfTok,
  parse_list, parse_comparator, parse_kvp])

/-- After the code's primitive steps both sides go on with a sub-call that the rule `h` of `Sim n`
relates, and propagate its failure: the cases out of fuel and error are closed, the success case is
left with the two results `x` (model) and `f x` (code) in place of the calls and the state `ts`,
`off` after them (the equations used are `hm`, `hc`); in `expr` the failure goes through `expr_loop`.
Without names: in the success case both sides return at once, too. -/
syntax "bind " term (" with " Lean.Parser.Tactic.rcasesPatLo Lean.Parser.Tactic.rcasesPatLo
  Lean.Parser.Tactic.rcasesPatLo)? : tactic
set_option hygiene false in
macro_rules
  | `(tactic| bind $h with $x $ts $off) => `(tactic| (
    try code_step
    obtain hm | ⟨_, _, _, hm, hc⟩ | ⟨$x, $ts, $off, hm, hc⟩ := cases_of $h
    · rw [hm]; exact .fuel
    · rw [hm, hc]; first | exact .err | exact .loop_err
    rw [hm, hc]))
  | `(tactic| bind $h) => `(tactic| (bind $h with _ _ _; exact .ok))

/-- `parse_list` started on empty lists returns as many trees as expressions (`ListInv`) -/
theorem parseList_len {n paren ts off es' as' ts' off'}
    (h : Parser.parseList n paren ts off [] [] = .ok ((es', as'), ts', off')) :
    es'.length = as'.length := by
  obtain ⟨new, anew, rfl, rfl, _, _, _, h6⟩ := (all n).list _ _ _ _ _ _ _ _ _ h nofun
  rw [← length_exprsAst, ← h6, length_stripList]

/-- the queue is exhausted: `nud` takes the synthetic `Eof` and fails at `self.offset` -/
theorem expr_nil (k rbp off : Nat) : expr (k+2) rbp [] off = (.error (.at off), [], off) := by
  rw [expr.eq_def]
  simp only
  rw [nud.eq_def]
  simp only [awp_nil, err_false, expr_loop_err]

/-- the loop of `parse_list` at the closing token -/
theorem Agrees.closing {ρ : Type} {f : ρ → List Ast} {x : ρ} {k : Nat} {paren : Bool} {p : Nat} {t : Tok}
    {r : List PT} {off : Nat} (h : Parser.isClosing paren t = true) :
    Agrees f (.ok (x, r, p)) (parse_list_loop (k+1) (closingTok paren) (f x) ((p, t) :: r) off) := by
  rw [parse_list_loop.eq_def]
  simp only [peek_zero, peekT_cons, tokEq_closing, h, Bool.not_true, Bool.false_eq_true, if_false, adv_cons]
  exact .ok

/-- what `Parser.parseIndex (n+1)` does with the result of its token loop -/
def idxRest (n : Nat) (r : Except PErr (Parser.IdxHdr × List PT × Nat)) :
    PRes ((Int ⊕ (SliceHdr × Rhs)) × Ast) :=
  match r with
  | .error e => .error e
  | .ok (.idx i, ts, off) => .ok ((.inl i, .index off i), ts, off)
  | .ok (.slice hd, ts, off) =>
    let step : Int := match hd.c with
      | some (some s) => s
      | _ => 1
    match Parser.projRhs n 20 ts off with
    | .error e => .error e
    | .ok ((rhs, ra), ts', off') =>
      .ok ((.inr (hd, rhs), .projection off (.slice off hd.a hd.b step) ra), ts', off')

theorem parseIndex_succ (n : Nat) (ts : List PT) (off : Nat) :
    Parser.parseIndex (n+1) ts off = idxRest n (Parser.idxLoop 8 ts off none none none 0) := by
  rw [Parser.parseIndex.eq_def]
  rfl

theorem idxRest_error (n : Nat) (e : PErr) : idxRest n (.error e) = .error e := rfl
theorem idxRest_idx (n : Nat) (i : Int) (ts : List PT) (off : Nat) :
    idxRest n (.ok (.idx i, ts, off)) = .ok ((.inl i, .index off i), ts, off) := rfl
/-- the step the model reads off the slice header -/
def stepOf (c : Option (Option Int)) : Int :=
  match c with
  | some (some s) => s
  | _ => 1
theorem stepOf_some (c : Option Int) : stepOf (some c) = c.getD 1 := by cases c <;> rfl
theorem stepOf_none : stepOf none = 1 := rfl
theorem idxRest_slice (n : Nat) (hd : SliceHdr) (ts : List PT) (off : Nat) :
    idxRest n (.ok (.slice hd, ts, off)) =
      match Parser.projRhs n 20 ts off with
      | .error e => .error e
      | .ok ((rhs, ra), ts', off') =>
        .ok ((.inr (hd, rhs), .projection off (.slice off hd.a hd.b (stepOf hd.c)) ra), ts', off') := rfl

section
variable {n : Nat} (ih : Sim n) {j : Nat} (hj : 9 * n ≤ j)
include ih hj

theorem sim_projRhs (lbp ts off) :
    Agrees Prod.snd (Parser.projRhs (n+1) lbp ts off) (projection_rhs (j+9) lbp ts off) := by
  rw [Parser.projRhs.eq_def, projection_rhs.eq_def]
  rcases ts with _ | ⟨⟨p, t⟩, r⟩
  · exact .ok
  cases t
  case dot => bind ih.parseDot (j+8) (by omega) lbp r p
  case lbracket | filter => bind ih.expr (j+8) (by omega) lbp _ off
  all_goals first | exact .ok | exact .err

theorem sim_parseFlatten (lhs ts off) :
    Agrees Prod.snd (Parser.parseFlatten (n+1) lhs ts off) (parse_flatten (j+9) lhs ts off) := by
  rw [Parser.parseFlatten.eq_def, parse_flatten.eq_def]
  bind ih.projRhs (j+8) (by omega) 9 ts off

theorem sim_wildcardValues (lhs ts off) :
    Agrees Prod.snd (Parser.wildcardValues (n+1) lhs ts off) (parse_wildcard_values (j+9) lhs ts off) := by
  rw [Parser.wildcardValues.eq_def, parse_wildcard_values.eq_def]
  bind ih.projRhs (j+8) (by omega) 20 ts off

theorem sim_wildcardIndex (lhs ts off) :
    Agrees Prod.snd (Parser.wildcardIndex (n+1) lhs ts off) (parse_wildcard_index (j+9) lhs ts off) := by
  rw [Parser.wildcardIndex.eq_def, parse_wildcard_index.eq_def]
  rcases ts with _ | ⟨⟨p, t⟩, r⟩
  · exact .err
  cases t
  case rbracket => bind ih.projRhs (j+8) (by omega) 20 r p
  all_goals exact .err

theorem sim_parseFilter (lhs ts off) :
    Agrees (fun r => r.2.2) (Parser.parseFilter (n+1) lhs ts off) (parse_filter (j+9) lhs ts off) := by
  rw [Parser.parseFilter.eq_def, parse_filter.eq_def]
  bind ih.expr (j+8) (by omega) 0 ts off with ⟨pe, pa⟩ ts1 off1
  rcases ts1 with _ | ⟨⟨p, t⟩, r⟩
  · exact .err
  cases t
  case rbracket => bind ih.projRhs (j+8) (by omega) 21 r p
  all_goals exact .err

theorem sim_parseDot (lbp ts off) :
    Agrees Prod.snd (Parser.parseDot (n+1) lbp ts off) (parse_dot (j+9) lbp ts off) := by
  rw [Parser.parseDot.eq_def, parse_dot.eq_def]
  rcases ts with _ | ⟨⟨p, t⟩, r⟩
  · exact .err
  cases t
  case lbracket => bind ih.multiList (j+8) (by omega) r p
  case identifier | quotedIdentifier | star | lbrace | ampersand => bind ih.expr (j+8) (by omega) lbp _ off
  all_goals exact .err

theorem sim_nud (ts off) :
    Agrees Prod.snd (Parser.nud (n+1) ts off) (nud (j+9) ts off) := by
  rw [Parser.nud.eq_def, nud.eq_def]
  rcases ts with _ | ⟨⟨p, t⟩, r⟩
  · exact .err
  cases t
  case quotedIdentifier s =>
    code_step
    generalize Parser.peekT r = t1
    cases t1 <;> first | exact .ok | exact .err
  case star => bind ih.wildcardValues (j+8) (by omega) (.identity p) r p
  case flatten => bind ih.parseFlatten (j+8) (by omega) (.identity p) r p
  case filter => bind ih.parseFilter (j+8) (by omega) (.identity p) r p
  case lbrace => bind ih.kvps (j+8) (by omega) p r p [] [] _ rfl
  case ampersand | not => bind ih.expr (j+8) (by omega) _ r p
  case lparen =>
    bind ih.expr (j+8) (by omega) 0 r p with ⟨e, a⟩ ts1 off1
    rcases ts1 with _ | ⟨⟨p2, t2⟩, r2⟩
    · exact .err
    cases t2 <;> first | exact .ok | exact .err
  case lbracket =>
    code_step
    -- whatever follows but a number, `:` or `* ]`: both sides go on with the multi-select list
    have hD : Agrees Prod.snd
        (match Parser.multiList n r p with
          | .error e => .error e
          | .ok ((es, a), ts, off) => .ok ((Nud.mlist es, a), ts, off)) (parse_multi_list (j+8) r p) := by
      bind ih.multiList (j+8) (by omega) r p
    rcases r with _ | ⟨⟨p1, t1⟩, r1⟩
    · exact hD
    cases t1
    case number | colon =>
      bind ih.parseIndex (j+8) (by omega) _ p with ⟨c, a⟩ ts1 off1
      rcases c with i | ⟨hd, rhs⟩ <;> exact .ok
    case star =>
      rcases r1 with _ | ⟨⟨p2, t2⟩, r2⟩
      · exact hD
      cases t2
      case rbracket => bind ih.wildcardIndex (j+8) (by omega) (.identity p) _ p1
      all_goals exact hD
    all_goals exact hD
  all_goals first | exact .ok | exact .err

theorem sim_led (left ts off) (hlp : isLp (Parser.peekT ts) = false) :
    Agrees Prod.snd (Parser.led (n+1) left ts off) (led (j+9) left ts off) := by
  rw [Parser.led.eq_def, led.eq_def]
  rcases ts with _ | ⟨⟨p, t⟩, r⟩
  · exact .err
  cases t
  case lparen => cases hlp
  case dot =>
    have hD : Agrees Prod.snd
        (match Parser.parseDot n 40 r p with
          | .error e => .error e
          | .ok ((d, ra), ts, off) => .ok ((Led.dot d, Ast.subexpr p left ra), ts, off))
        (match parse_dot (j+8) 40 r p with
          | (.error e, ts, off) => (.error e, ts, off)
          | (.ok rhs, ts, off) => (.ok (Ast.subexpr p left rhs), ts, off)) := by
      bind ih.parseDot (j+8) (by omega) 40 r p
    rcases r with _ | ⟨⟨p1, t1⟩, r1⟩
    · exact hD
    cases t1
    case star => bind ih.wildcardValues (j+8) (by omega) left r1 p1
    all_goals exact hD
  case lbracket =>
    rcases r with _ | ⟨⟨p1, t1⟩, r1⟩
    · exact .err
    cases t1
    case number | colon =>
      bind ih.parseIndex (j+8) (by omega) _ p with ⟨c, a⟩ ts1 off1
      rcases c with i | ⟨hd, rhs⟩ <;> exact .ok
    case star => bind ih.wildcardIndex (j+8) (by omega) left r1 p1
    all_goals exact .err
  case or | and | pipe => bind ih.expr (j+8) (by omega) _ r p
  case flatten => bind ih.parseFlatten (j+8) (by omega) left r p
  case filter => bind ih.parseFilter (j+8) (by omega) left r p
  case eq | ne | gt | gte | lt | lte => bind ih.expr (j+7) (by omega) 5 r p
  all_goals exact .err

theorem sim_expr (rbp ts off) :
    Agrees Prod.snd (Parser.expr (n+1) rbp ts off) (expr (j+9) rbp ts off) := by
  rw [Parser.expr.eq_def, expr.eq_def]
  bind ih.nud (j+8) (by omega) ts off with ⟨h, a⟩ ts1 off1
  exact .of_eq (ih.loop (j+8) (by omega) rbp h [] a ts1 off1 _ rfl)

theorem sim_loop (rbp h acc left ts off) :
    Agrees Prod.snd (Parser.loop (n+1) rbp h acc left ts off) (expr_loop (j+9) rbp (.ok left) ts off) := by
  rw [Parser.loop.eq_def, expr_loop.eq_def]
  simp only [peek_zero]
  by_cases hr : rbp < (Parser.peekT ts).lbp
  · rw [if_pos hr, if_pos hr]
    -- `led` on anything but `(`, then around the loop again
    have hD : isLp (Parser.peekT ts) = false → Agrees Prod.snd
        (match Parser.led n left ts off with
          | .error e => .error e
          | .ok ((l, left'), ts, off) => Parser.loop n rbp h (acc ++ [l]) left' ts off)
        (match led (j+8) left ts off with
          | (left_1, ts1, off1) => expr_loop (j+8) rbp left_1 ts1 off1) := by
      intro hlp
      bind ih.led (j+8) (by omega) left ts off hlp with ⟨l, a⟩ ts1 off1
      exact .of_eq (ih.loop (j+8) (by omega) rbp h _ a ts1 off1 _ rfl)
    rcases ts with _ | ⟨⟨p, t⟩, r⟩
    · exact hD rfl
    cases t
    case lparen =>
      rw [led.eq_def]
      cases left <;> code_step
      case field o name =>
        bind (show parse_list_loop (j+6) .rparen [] r p = _ from ih.parseList (j+6) (by omega) true r p [] [] _ rfl)
          with ⟨es, as⟩ ts1 off1
        simp only
        split <;> exact .of_eq (ih.loop (j+8) (by omega) rbp _ _ _ ts1 off1 _ rfl)
      all_goals exact .loop_err
    all_goals exact hD rfl
  · rw [if_neg hr, if_neg hr]; exact .ok

theorem sim_multiList (ts off) :
    Agrees Prod.snd (Parser.multiList (n+1) ts off) (parse_multi_list (j+9) ts off) := by
  rw [Parser.multiList.eq_def, parse_multi_list.eq_def]
  bind (show parse_list_loop (j+7) .rbracket [] ts off = _ from ih.parseList (j+7) (by omega) false ts off [] [] _ rfl)
    with ⟨es, as⟩ ts1 off1
  have hl := parseList_len hm
  cases es <;> cases as <;> first | exact .err | exact .ok | cases hl

theorem sim_parseList (paren ts off es as) :
    Agrees Prod.snd (Parser.parseList (n+1) paren ts off es as)
      (parse_list_loop (j+9) (closingTok paren) as ts off) := by
  rw [Parser.parseList.eq_def]
  rcases ts with _ | ⟨⟨p, t⟩, r⟩
  · rw [parse_list_loop.eq_def]
    simp only [peek_nil, tokEq_closing, expr_nil (j+6)]
    exact .err
  cases hc : Parser.isClosing paren t
  case true => simp only [hc, if_true]; exact .closing hc
  rw [parse_list_loop.eq_def]
  simp only [peek_zero, peekT_cons, tokEq_closing, err_true, hc, Bool.not_false, Bool.false_eq_true,
    if_true, if_false]
  bind ih.expr (j+8) (by omega) 0 _ off with ⟨e, a⟩ ts1 off1
  rcases ts1 with _ | ⟨⟨p2, t2⟩, r2⟩
  · exact .err
  cases t2
  case comma =>
    by_cases hc2 : Parser.isClosing paren (Parser.peekT r2) = true
    · simp only [peekT_cons, tokEq, adv_cons, hc2, if_true]; exact .err
    · simp only [peekT_cons, tokEq, adv_cons, hc2, if_true]
      exact .of_eq (ih.parseList (j+8) (by omega) paren r2 p2 _ _ _ rfl)
  case rparen | rbracket => cases paren <;> first | exact .err | exact .closing rfl (k := j+7)
  all_goals exact .err

theorem sim_kvps (offset ts off ks aks) :
    Agrees (fun r => Ast.multiHash offset r.2) (Parser.kvps (n+1) ts off ks aks)
      (nud_loop (j+9) offset aks ts off) := by
  rw [Parser.kvps.eq_def, nud_loop.eq_def]
  simp only
  rw [parse_kvp.eq_def]
  rcases ts with _ | ⟨⟨p, t⟩, r⟩
  · exact .err
  cases t
  case identifier s | quotedIdentifier s =>
    rcases r with _ | ⟨⟨p1, t1⟩, r1⟩
    · exact .err
    cases t1
    case colon =>
      simp only [adv_cons, peek_zero, peekT_cons, tokEq, if_true]
      bind ih.expr (j+7) (by omega) 0 r1 p1 with ⟨e, a⟩ ts1 off1
      rcases ts1 with _ | ⟨⟨p3, t3⟩, r3⟩
      · exact .err
      cases t3
      case rbrace => exact .ok
      case comma => exact .of_eq (ih.kvps (j+8) (by omega) offset r3 p3 _ _ _ rfl)
      all_goals exact .err
    all_goals exact .err
  all_goals exact .err

omit hj in
/-- the loop of `parse_index` (code: one unit of fuel per token, then `projection_rhs` with what is
left) against the model's `idxLoop` (own constant budget) followed by the rest of `parseIndex`.
`pos` counts the colons; the third part is only written once `pos = 2`. -/
theorem sim_idx : ∀ i k, 9 * n + i ≤ k → ∀ a b c pos ts off, pos ≤ 2 → (pos < 2 → c = none) →
    Agrees Prod.snd (idxRest n (Parser.idxLoop i ts off a b c pos))
      (parse_index_loop k (a, b, c) pos ts off) := by
  intro i
  induction i with
  | zero => intros; exact .fuel
  | succ i IH =>
    intro k hk a b c pos ts off hp hc
    obtain ⟨k, rfl⟩ : ∃ k', k = k' + 1 := ⟨k - 1, by omega⟩
    replace IH := IH k (by omega)
    rw [Parser.idxLoop.eq_def, parse_index_loop.eq_def]
    rcases ts with _ | ⟨⟨p, t⟩, r⟩
    · exact .err
    cases t
    case number v =>
      code_step
      generalize Parser.peekT r = t1
      obtain rfl | rfl | rfl : pos = 0 ∨ pos = 1 ∨ pos = 2 := by omega
      all_goals
        cases t1
        case colon | rbracket => exact IH _ _ _ _ r p hp (by simp [hc])
        all_goals exact .err
    case rbracket =>
      obtain rfl | hp0 : pos = 0 ∨ pos ≠ 0 := by omega
      · cases a <;> first | exact .ok | exact .err
      · have e : stepOf (if pos = 2 then some c else none) = c.getD 1 := by
          split
          · exact stepOf_some c
          · rw [hc (by omega)]; rfl
        simp only [adv_cons, hp0, if_false, idxRest_slice, e]
        bind ih.projRhs k (by omega) 20 r p
    case colon =>
      code_step
      generalize Parser.peekT r = t1
      obtain rfl | rfl | rfl : pos = 0 ∨ pos = 1 ∨ pos = 2 := by omega
      case inr.inr => exact .err
      all_goals
        cases t1
        case number | colon | rbracket => exact IH _ _ _ _ r p (by omega) (fun _ => hc (by omega))
        all_goals exact .err
    all_goals exact .err

theorem sim_parseIndex (ts off) :
    Agrees Prod.snd (Parser.parseIndex (n+1) ts off) (parse_index (j+9) ts off) := by
  rw [parseIndex_succ, parse_index.eq_def]
  exact sim_idx ih 8 (j+8) (by omega) none none none 0 ts off (by omega) (fun _ => rfl)

end

/-- the rules of level `n+1` ask for nine units of fuel more than those of level `n` -/
theorem from9 {n : Nat} {Q : Nat → Prop} (h : ∀ j, 9 * n ≤ j → Q (j+9)) : ∀ k, 9 * (n+1) ≤ k → Q k := by
  intro k hk
  obtain ⟨j, rfl⟩ : ∃ j, k = j + 9 := ⟨k - 9, by omega⟩
  exact h j (by omega)

theorem sim_all : ∀ n, Sim n := by
  intro n
  induction n with
  | zero => constructor <;> intros <;> (try subst_vars) <;> simp [hid]
  | succ n ih =>
    exact ⟨from9 fun _ hj _ _ _ => (sim_expr ih hj ..).eq,
      from9 fun _ hj _ _ _ _ _ _ _ hm => hm ▸ (sim_loop ih hj ..).eq,
      from9 fun _ hj _ _ => (sim_nud ih hj ..).eq,
      from9 fun _ hj _ _ _ hlp => (sim_led ih hj _ _ _ hlp).eq,
      from9 fun _ hj _ _ => (sim_parseIndex ih hj ..).eq,
      from9 fun _ hj _ _ _ => (sim_projRhs ih hj ..).eq,
      from9 fun _ hj _ _ _ => (sim_parseDot ih hj ..).eq,
      from9 fun _ hj _ _ => (sim_multiList ih hj ..).eq,
      from9 fun _ hj _ _ _ _ _ _ hm => hm ▸ (sim_parseList ih hj ..).eq,
      from9 fun _ hj _ _ _ _ _ _ hm => hm ▸ (sim_kvps ih hj ..).eq,
      from9 fun _ hj _ _ _ => (sim_parseFilter ih hj ..).eq,
      from9 fun _ hj _ _ _ => (sim_parseFlatten ih hj ..).eq,
      from9 fun _ hj _ _ _ => (sim_wildcardValues ih hj ..).eq,
      from9 fun _ hj _ _ _ => (sim_wildcardIndex ih hj ..).eq⟩

/-! ## exported statements (no `hid`, no `fromModel`) -/

theorem of_ok {ρ α : Type} {f : ρ → α} {m : Except PErr (ρ × List PT × Nat)} {c x : PR (Res α)}
    {r : ρ} {ts' : List PT} {off' : Nat} (h : c = fromModel f m x) (hm : m = .ok (r, ts', off')) :
    c = (.ok (f r), ts', off') := by rw [h, hm]; rfl

theorem of_err {ρ α : Type} {f : ρ → α} {m : Except PErr (ρ × List PT × Nat)} {c x : PR (Res α)}
    {p : Nat} (h : c = fromModel f m x) (hm : m = .error (.at p)) : c.1 = .error (.at p) := by
  rw [h, hm]; rfl

/-! ### abbreviations for a step proof that unfolds the model's path in a hypothesis `hm` (the step proofs above go by `bind`) -/

set_option hygiene false in
/-- the rules of level `n` at the fuels that occur one level up -/
macro "sim_rules" ih:ident j:ident : tactic => `(tactic| (
  have e8 := ($ih).expr ($j+8) (by omega)
  have e7 := ($ih).expr ($j+7) (by omega)
  have n8 := ($ih).nud ($j+8) (by omega)
  have i8 := ($ih).parseIndex ($j+8) (by omega)
  have p8 := ($ih).projRhs ($j+8) (by omega)
  have d8 := ($ih).parseDot ($j+8) (by omega)
  have m8 := ($ih).multiList ($j+8) (by omega)
  have lp6 := ($ih).listP ($j+6) (by omega)
  have lb7 := ($ih).listB ($j+7) (by omega)
  have k8 := ($ih).kvps0 ($j+8) (by omega)
  have f8 := ($ih).parseFilter ($j+8) (by omega)
  have fl8 := ($ih).parseFlatten ($j+8) (by omega)
  have wv8 := ($ih).wildcardValues ($j+8) (by omega)
  have wi8 := ($ih).wildcardIndex ($j+8) (by omega)))

set_option hygiene false in
/-- with the rules of `sim_rules` in scope and the model's result in `hm`: rewrite the code's sub-calls
with them (and the lemmas `ls`), follow the model's path (`split at hm`), close the leaves; `t` is
recorded as `hl` in each leaf -/
macro "leafG" "[" ls:Lean.Parser.Tactic.simpLemma,* "]" hm:ident t:term : tactic => `(tactic| (
  (simp only [$ls,*, e8, e7, n8, i8, p8, d8, m8, lp6, lb7, k8, f8, fl8, wv8, wi8,
    Tok.lbp, peek_zero, peek_nil, peek_cons_succ, peek_cons_one, awp_cons, awp_nil, adv_cons, adv_nil,
    err_false, err_true, stop_eq, Parser.projectionStop, eof_token, peekT_cons, peekT_nil, peekPos_cons, peekPos_nil,
    tokEq_rparen, tokEq_rbracket, tokEq_closing, tokEq_comma, tokEq_star, tokEq_colon,
    Parser.cmpOfTok, parse_list, parse_comparator, parse_kvp,
    ne_eq, reduceCtorEq, not_false_eq_true, not_true_eq_false, Bool.not_true, Bool.not_false,
    Bool.false_eq_true, if_true, if_false, ite_true, ite_false, Nat.reduceLT, Nat.reduceLeDiff, Nat.reduceAdd,
    Nat.not_lt_zero, Nat.lt_irrefl] at $hm:ident ⊢) <;> (
  clear e8 e7 n8 i8 p8 d8 m8 lp6 lb7 k8 f8 fl8 wv8 wi8
  repeat' (split at $hm:ident)
  all_goals (try (cases $hm:ident))
  all_goals (try (have hl := $t))
  all_goals (try (simp_all; done))
  all_goals (try grind))))

/-- `leafG` when the tokens looked at are known: the token tests are evaluated -/
macro "leafT" "[" ls:Lean.Parser.Tactic.simpLemma,* "]" hm:ident t:term : tactic =>
  `(tactic| leafG [$ls,*, isComma, isStar, isColon, Parser.isClosing] $hm $t)

macro "leaf" "[" ls:Lean.Parser.Tactic.simpLemma,* "]" hm:ident : tactic =>
  `(tactic| leafT [$ls,*] $hm True.intro)

/-- one more token of look-ahead, then `leaf` -/
macro "look_leaf" r:ident hm:ident : tactic => `(tactic| (
  cases $r:ident with
  | nil => leaf [peek_zero] $hm
  | cons pt1 r1 => (obtain ⟨p1, t1⟩ := pt1; cases t1 <;> leaf [peek_zero] $hm)))

set_option hygiene false in
macro "idx_leaf" hm:ident : tactic => `(tactic| (
  (simp only [q0, q1, q2, pj, idxRest_error, idxRest_idx, idxRest_slice, stepOf_some, stepOf_none, Tok.lbp, peek_zero, peek_nil, adv_cons, adv_nil, err_false, err_true,
    peekT_cons, peekT_nil, peekPos_cons, peekPos_nil, USIZE_MAX,
    ne_eq, reduceCtorEq, not_false_eq_true, not_true_eq_false, if_true, if_false, ite_true, ite_false,
    ge_iff_le, Nat.reduceLeDiff, Nat.reduceAdd, Nat.reduceEqDiff, Nat.reduceLT,
    Nat.zero_add, Nat.le_refl, Nat.not_succ_le_zero, Nat.add_eq_zero_iff, Nat.succ_ne_zero, and_false, and_self,
    Nat.one_ne_zero, Nat.zero_ne_one] at $hm:ident ⊢) <;> (
  clear q0 q1 q2 pj
  repeat' (first | split at $hm:ident | (simp only [idxRest_error, idxRest_idx, idxRest_slice, stepOf_some, stepOf_none] at $hm:ident))
  all_goals (try (cases $hm:ident))
  all_goals (try (simp_all; done))
  all_goals (try grind))))

/-- `idx_leaf` for every shape of the next two tokens of `ts` -/
macro "idx_body" ts:ident hm:ident : tactic => `(tactic| (
  cases $ts:ident with
  | nil => idx_leaf $hm
  | cons pt r0 =>
    obtain ⟨p0, t0⟩ := pt
    cases t0
    case number =>
      cases r0 with
      | nil => idx_leaf $hm
      | cons pt1 r1 => (obtain ⟨p1, t1⟩ := pt1; cases t1 <;> idx_leaf $hm)
    case colon =>
      cases r0 with
      | nil => idx_leaf $hm
      | cons pt1 r1 => (obtain ⟨p1, t1⟩ := pt1; cases t1 <;> idx_leaf $hm)
    all_goals idx_leaf $hm))

end ParserEquiv

open Generated ParserEquiv

section
variable {n k : Nat} {ts ts' : List PT} {off off' p : Nat}

theorem gen_expr_eq {rbp : Nat} {e : Expr} {a : Ast}
    (h : Parser.expr n rbp ts off = .ok ((e, a), ts', off')) (hk : 9 * n ≤ k) :
    ParserCode.expr k rbp ts off = (.ok a, ts', off') := of_ok ((sim_all n).expr k hk ..) h
theorem gen_expr_err {rbp : Nat} (h : Parser.expr n rbp ts off = .error (.at p)) (hk : 9 * n ≤ k) :
    (ParserCode.expr k rbp ts off).1 = .error (.at p) := of_err ((sim_all n).expr k hk ..) h

theorem gen_expr_loop_eq {rbp : Nat} {hd : Nud} {acc : List Led} {left : Ast} {e : Expr} {a : Ast}
    (h : Parser.loop n rbp hd acc left ts off = .ok ((e, a), ts', off')) (hk : 9 * n ≤ k) :
    ParserCode.expr_loop k rbp (.ok left) ts off = (.ok a, ts', off') :=
  of_ok ((sim_all n).loop k hk rbp hd acc left ts off _ rfl) h
theorem gen_expr_loop_err {rbp : Nat} {hd : Nud} {acc : List Led} {left : Ast}
    (h : Parser.loop n rbp hd acc left ts off = .error (.at p)) (hk : 9 * n ≤ k) :
    (ParserCode.expr_loop k rbp (.ok left) ts off).1 = .error (.at p) :=
  of_err ((sim_all n).loop k hk rbp hd acc left ts off _ rfl) h

theorem gen_nud_eq {c : Nud} {a : Ast} (h : Parser.nud n ts off = .ok ((c, a), ts', off')) (hk : 9 * n ≤ k) :
    ParserCode.nud k ts off = (.ok a, ts', off') := of_ok ((sim_all n).nud k hk ..) h
theorem gen_nud_err (h : Parser.nud n ts off = .error (.at p)) (hk : 9 * n ≤ k) :
    (ParserCode.nud k ts off).1 = .error (.at p) := of_err ((sim_all n).nud k hk ..) h

/-- the model's `led` has no `Token::Lparen` arm (function calls are part of the model's `loop`) -/
theorem gen_led_eq {left : Ast} {c : Led} {a : Ast} (hlp : isLp (Parser.peekT ts) = false)
    (h : Parser.led n left ts off = .ok ((c, a), ts', off')) (hk : 9 * n ≤ k) :
    ParserCode.led k left ts off = (.ok a, ts', off') := of_ok ((sim_all n).led k hk left ts off hlp) h
theorem gen_led_err {left : Ast} (hlp : isLp (Parser.peekT ts) = false)
    (h : Parser.led n left ts off = .error (.at p)) (hk : 9 * n ≤ k) :
    (ParserCode.led k left ts off).1 = .error (.at p) := of_err ((sim_all n).led k hk left ts off hlp) h

theorem gen_parse_index_eq {c : Int ⊕ (SliceHdr × Rhs)} {a : Ast}
    (h : Parser.parseIndex n ts off = .ok ((c, a), ts', off')) (hk : 9 * n ≤ k) :
    ParserCode.parse_index k ts off = (.ok a, ts', off') := of_ok ((sim_all n).parseIndex k hk ..) h
theorem gen_parse_index_err (h : Parser.parseIndex n ts off = .error (.at p)) (hk : 9 * n ≤ k) :
    (ParserCode.parse_index k ts off).1 = .error (.at p) := of_err ((sim_all n).parseIndex k hk ..) h

theorem gen_projection_rhs_eq {lbp : Nat} {c : Rhs} {a : Ast}
    (h : Parser.projRhs n lbp ts off = .ok ((c, a), ts', off')) (hk : 9 * n ≤ k) :
    ParserCode.projection_rhs k lbp ts off = (.ok a, ts', off') := of_ok ((sim_all n).projRhs k hk ..) h
theorem gen_projection_rhs_err {lbp : Nat} (h : Parser.projRhs n lbp ts off = .error (.at p)) (hk : 9 * n ≤ k) :
    (ParserCode.projection_rhs k lbp ts off).1 = .error (.at p) := of_err ((sim_all n).projRhs k hk ..) h

theorem gen_parse_dot_eq {lbp : Nat} {c : DotRhs} {a : Ast}
    (h : Parser.parseDot n lbp ts off = .ok ((c, a), ts', off')) (hk : 9 * n ≤ k) :
    ParserCode.parse_dot k lbp ts off = (.ok a, ts', off') := of_ok ((sim_all n).parseDot k hk ..) h
theorem gen_parse_dot_err {lbp : Nat} (h : Parser.parseDot n lbp ts off = .error (.at p)) (hk : 9 * n ≤ k) :
    (ParserCode.parse_dot k lbp ts off).1 = .error (.at p) := of_err ((sim_all n).parseDot k hk ..) h

theorem gen_parse_multi_list_eq {es : List Expr} {a : Ast}
    (h : Parser.multiList n ts off = .ok ((es, a), ts', off')) (hk : 9 * n ≤ k) :
    ParserCode.parse_multi_list k ts off = (.ok a, ts', off') := of_ok ((sim_all n).multiList k hk ..) h
theorem gen_parse_multi_list_err (h : Parser.multiList n ts off = .error (.at p)) (hk : 9 * n ≤ k) :
    (ParserCode.parse_multi_list k ts off).1 = .error (.at p) := of_err ((sim_all n).multiList k hk ..) h

/-- `parse_list(closing)`'s loop; `nodes` = the elements parsed so far -/
theorem gen_parse_list_loop_eq {paren : Bool} {es es' : List Expr} {nodes nodes' : List Ast}
    (h : Parser.parseList n paren ts off es nodes = .ok ((es', nodes'), ts', off')) (hk : 9 * n ≤ k) :
    ParserCode.parse_list_loop k (closingTok paren) nodes ts off = (.ok nodes', ts', off') :=
  of_ok ((sim_all n).parseList k hk paren ts off es nodes _ rfl) h
theorem gen_parse_list_loop_err {paren : Bool} {es : List Expr} {nodes : List Ast}
    (h : Parser.parseList n paren ts off es nodes = .error (.at p)) (hk : 9 * n ≤ k) :
    (ParserCode.parse_list_loop k (closingTok paren) nodes ts off).1 = .error (.at p) :=
  of_err ((sim_all n).parseList k hk paren ts off es nodes _ rfl) h

/-- the `loop` of `nud`'s `Token::Lbrace` arm; `pairs` = the key/value pairs parsed so far -/
theorem gen_nud_loop_eq {offset : Nat} {ks ks' : List (Bool × String × Expr)} {pairs pairs' : List (String × Ast)}
    (h : Parser.kvps n ts off ks pairs = .ok ((ks', pairs'), ts', off')) (hk : 9 * n ≤ k) :
    ParserCode.nud_loop k offset pairs ts off = (.ok (Ast.multiHash offset pairs'), ts', off') :=
  of_ok (f := fun r => Ast.multiHash offset r.2) ((sim_all n).kvps k hk offset ts off ks pairs _ rfl) h
theorem gen_nud_loop_err {offset : Nat} {ks : List (Bool × String × Expr)} {pairs : List (String × Ast)}
    (h : Parser.kvps n ts off ks pairs = .error (.at p)) (hk : 9 * n ≤ k) :
    (ParserCode.nud_loop k offset pairs ts off).1 = .error (.at p) :=
  of_err ((sim_all n).kvps k hk offset ts off ks pairs _ rfl) h

theorem gen_parse_filter_eq {lhs : Ast} {pe : Expr} {rhs : Rhs} {a : Ast}
    (h : Parser.parseFilter n lhs ts off = .ok ((pe, rhs, a), ts', off')) (hk : 9 * n ≤ k) :
    ParserCode.parse_filter k lhs ts off = (.ok a, ts', off') := of_ok ((sim_all n).parseFilter k hk ..) h
theorem gen_parse_filter_err {lhs : Ast} (h : Parser.parseFilter n lhs ts off = .error (.at p)) (hk : 9 * n ≤ k) :
    (ParserCode.parse_filter k lhs ts off).1 = .error (.at p) := of_err ((sim_all n).parseFilter k hk ..) h

theorem gen_parse_flatten_eq {lhs : Ast} {c : Rhs} {a : Ast}
    (h : Parser.parseFlatten n lhs ts off = .ok ((c, a), ts', off')) (hk : 9 * n ≤ k) :
    ParserCode.parse_flatten k lhs ts off = (.ok a, ts', off') := of_ok ((sim_all n).parseFlatten k hk ..) h
theorem gen_parse_flatten_err {lhs : Ast} (h : Parser.parseFlatten n lhs ts off = .error (.at p)) (hk : 9 * n ≤ k) :
    (ParserCode.parse_flatten k lhs ts off).1 = .error (.at p) := of_err ((sim_all n).parseFlatten k hk ..) h

theorem gen_parse_wildcard_values_eq {lhs : Ast} {c : Rhs} {a : Ast}
    (h : Parser.wildcardValues n lhs ts off = .ok ((c, a), ts', off')) (hk : 9 * n ≤ k) :
    ParserCode.parse_wildcard_values k lhs ts off = (.ok a, ts', off') :=
  of_ok ((sim_all n).wildcardValues k hk ..) h
theorem gen_parse_wildcard_values_err {lhs : Ast}
    (h : Parser.wildcardValues n lhs ts off = .error (.at p)) (hk : 9 * n ≤ k) :
    (ParserCode.parse_wildcard_values k lhs ts off).1 = .error (.at p) :=
  of_err ((sim_all n).wildcardValues k hk ..) h

theorem gen_parse_wildcard_index_eq {lhs : Ast} {c : Rhs} {a : Ast}
    (h : Parser.wildcardIndex n lhs ts off = .ok ((c, a), ts', off')) (hk : 9 * n ≤ k) :
    ParserCode.parse_wildcard_index k lhs ts off = (.ok a, ts', off') :=
  of_ok ((sim_all n).wildcardIndex k hk ..) h
theorem gen_parse_wildcard_index_err {lhs : Ast}
    (h : Parser.wildcardIndex n lhs ts off = .error (.at p)) (hk : 9 * n ≤ k) :
    (ParserCode.parse_wildcard_index k lhs ts off).1 = .error (.at p) :=
  of_err ((sim_all n).wildcardIndex k hk ..) h

end

def liftE {α : Type} : Except PErr α → Except ParserCode.CErr α
  | .ok a => .ok a
  | .error .fuel => .error .fuel
  | .error (.at p) => .error (.at p)

/-- `parseTokens` with the end check of the Rust code (`Parser::parse` accepts as soon as `peek(0)`
is `Eof`, whatever follows), Ast only -/
def parseTokensR (ts : List PT) : Except PErr Ast :=
  match Parser.expr (8 * ts.length + 8) 0 ts 0 with
  | .error e => .error e
  | .ok ((_, a), rest, off) =>
    match Parser.peekT rest with
    | .eof => .ok a
    | _ => .error (.at (Parser.peekPos rest off))

theorem parseTokensR_no_fuel (ts : List PT) : parseTokensR ts ≠ .error .fuel := by
  have h := expr_fuel_ok' (8 * ts.length + 8) 0 ts 0 (by omega)
  unfold parseTokensR
  split
  · rename_i e he; intro h'; injection h' with h'; subst h'; exact h he
  · split <;> simp

/-- fuel-free big-step statement: every budget ≥ `parseFuel ts` gives the same result, the one the
model (Rust end check) describes -/
theorem gen_parse_tokens_eq (ts : List PT) (k : Nat) (hk : ParserCode.parseFuel ts ≤ k) :
    ParserCode.parse_tokens k ts = liftE (parseTokensR ts) := by
  have hnf := expr_fuel_ok' (8 * ts.length + 8) 0 ts 0 (by omega)
  have hr := (sim_all (8 * ts.length + 8)).expr k (by simp only [ParserCode.parseFuel] at hk; omega) 0 ts 0
  unfold ParserCode.parse_tokens parseTokensR
  rw [ParserCode.parse.eq_def]
  generalize Parser.expr (8 * ts.length + 8) 0 ts 0 = m at hr hnf
  rcases m with (_ | p) | ⟨⟨e, a⟩, rest, off⟩
  · exact absurd rfl hnf
  · simp only [fromModel_at] at hr
    simp [hr, liftE]
  · simp only [fromModel_ok] at hr
    simp only [hr, peek_zero, err_true]
    generalize Parser.peekPos rest off = q
    generalize Parser.peekT rest = t
    cases t <;> rfl

theorem gen_parse_eq_raw (ts : List PT) : ParserCode.run ts = liftE (parseTokensR ts) :=
  gen_parse_tokens_eq ts _ (Nat.le_refl _)

theorem gen_parse_fuel_indep (ts : List PT) (k : Nat) (hk : ParserCode.parseFuel ts ≤ k) :
    ParserCode.parse_tokens k ts = ParserCode.run ts := by
  rw [gen_parse_eq_raw, gen_parse_tokens_eq ts k hk]

theorem gen_parse_no_panic (ts : List PT) :
    ParserCode.run ts ≠ .error .fuel ∧ ParserCode.run ts ≠ .error .overflow ∧
      ParserCode.run ts ≠ .error .outOfBounds := by
  rw [gen_parse_eq_raw]
  have h := parseTokensR_no_fuel ts
  generalize parseTokensR ts = x at h
  rcases x with (_ | p) | a
  · exact absurd rfl h
  · simp [liftE]
  · simp [liftE]

/-- every `Eof` entry of the token list is its last entry (what the lexer produces) -/
def EofOnlyLast (ts : List PT) : Prop :=
  ∀ pre p post, ts = pre ++ (p, Tok.eof) :: post → post = []

theorem parseTokensR_eq (ts : List PT) (h : EofOnlyLast ts) :
    parseTokensR ts = (parseTokens ts).map (·.2) := by
  unfold parseTokensR parseTokens
  generalize hm : Parser.expr (8 * ts.length + 8) 0 ts 0 = m
  rcases m with e | ⟨⟨e, a⟩, rest, off⟩
  · rfl
  · obtain ⟨pre, hpre⟩ := Pos.expr_suffix _ _ _ _ _ _ _ hm
    rcases rest with _ | ⟨⟨p, t⟩, r⟩
    · rfl
    · cases t
      case eof =>
        obtain rfl := h pre p r hpre
        rfl
      all_goals rfl

theorem gen_parse_eq (ts : List PT) (h : EofOnlyLast ts) :
    ParserCode.run ts = liftE ((parseTokens ts).map (·.2)) := by
  rw [gen_parse_eq_raw, parseTokensR_eq ts h]

theorem eofOnlyLast_of_tokenize {cs : List Char} {ts : List PT} (h : tokenize cs = .ok ts) :
    EofOnlyLast ts := by
  obtain ⟨mid, rfl, hmid⟩ := tokenize_shape cs ts h
  intro pre p post heq
  -- the last entry of both sides
  rcases List.eq_nil_or_concat post with rfl | ⟨post', x, rfl⟩
  · rfl
  · exfalso
    have h1 : mid ++ [(Lexer.utf8Len cs, Tok.eof)] = (pre ++ (p, Tok.eof) :: post') ++ [x] := by
      rw [heq]; simp
    have h2 := List.append_inj' h1 rfl
    have hmem : (p, Tok.eof) ∈ mid := by rw [h2.1]; simp
    have := (hmid _ hmem).1
    simp [Tok.isEof] at this

theorem gen_parse_eq_tokenize {cs : List Char} {ts : List PT} (h : tokenize cs = .ok ts) :
    ParserCode.run ts = liftE ((parseTokens ts).map (·.2)) :=
  gen_parse_eq ts (eofOnlyLast_of_tokenize h)


/-! ## non-vacuity (evaluation in the kernel; token positions = byte offsets, last token `(len, eof)`) -/
section Examples
open ParserCode

/-- `a.b[0]` -/
example : run [(0, .identifier "a"), (1, .dot), (2, .identifier "b"), (3, .lbracket), (4, .number 0),
      (5, .rbracket), (6, .eof)] =
    .ok (Ast.subexpr 1 (Ast.field 0 "a") (Ast.subexpr 3 (Ast.field 2 "b") (Ast.index 5 0))) := by
  with_unfolding_all rfl

/-- ``a[?b > `true`].c | [0]`` -/
example : run [(0, .identifier "a"), (1, .filter), (3, .identifier "b"), (5, .gt), (7, .literal (.bool true)),
      (13, .rbracket), (14, .dot), (15, .identifier "c"), (17, .pipe), (19, .lbracket), (20, .number 0),
      (21, .rbracket), (22, .eof)] =
    .ok (Ast.subexpr 17
      (Ast.projection 15 (Ast.field 0 "a")
        (Ast.condition 15 (Ast.comparison 7 Cmp.gt (Ast.field 3 "b") (Ast.literal 7 (Val.bool true)))
          (Ast.field 15 "c")))
      (Ast.index 21 0)) := by
  with_unfolding_all rfl

/-- `a.` : error at the end of the input -/
example : run [(0, .identifier "a"), (1, .dot), (2, .eof)] = .error (.at 2) := by with_unfolding_all rfl
/-- `a[` -/
example : run [(0, .identifier "a"), (1, .lbracket), (2, .eof)] = .error (.at 2) := by with_unfolding_all rfl
/-- `a b` : trailing token, error at its position -/
example : run [(0, .identifier "a"), (2, .identifier "b"), (3, .eof)] = .error (.at 2) := by with_unfolding_all rfl
/-- `foo(a, b)` -/
example : run [(0, .identifier "foo"), (3, .lparen), (4, .identifier "a"), (5, .comma), (7, .identifier "b"),
      (8, .rparen), (9, .eof)] = .ok (Ast.function 3 "foo" [Ast.field 4 "a", Ast.field 7 "b"]) := by
  with_unfolding_all rfl
/-- `[1:2:3]` and `{a: b}` -/
example : run [(0, .lbracket), (1, .number 1), (2, .colon), (3, .number 2), (4, .colon), (5, .number 3),
      (6, .rbracket), (7, .eof)] = .ok (Ast.projection 6 (Ast.slice 6 (some 1) (some 2) 3) (Ast.identity 6)) := by
  with_unfolding_all rfl
example : run [(0, .lbrace), (1, .identifier "a"), (2, .colon), (4, .identifier "b"), (5, .rbrace), (6, .eof)] =
    .ok (Ast.multiHash 0 [("a", Ast.field 4 "b")]) := by
  with_unfolding_all rfl

/-- the documented deviation of the hand model on a token list the lexer cannot produce (an `Eof`
in the middle): the code accepts at the first `Eof`, `parseTokens` wants the whole list consumed -/
example : run [(0, .identifier "a"), (1, .eof), (2, .identifier "b")] = .ok (Ast.field 0 "a") := by
  with_unfolding_all rfl
example : (parseTokens [(0, .identifier "a"), (1, .eof), (2, .identifier "b")]).map (·.2) = .error (.at 1) := by
  with_unfolding_all rfl

end Examples

#print axioms gen_expr_eq
#print axioms gen_expr_err
#print axioms gen_expr_loop_eq
#print axioms gen_expr_loop_err
#print axioms gen_nud_eq
#print axioms gen_nud_err
#print axioms gen_led_eq
#print axioms gen_led_err
#print axioms gen_parse_index_eq
#print axioms gen_parse_index_err
#print axioms gen_projection_rhs_eq
#print axioms gen_projection_rhs_err
#print axioms gen_parse_dot_eq
#print axioms gen_parse_dot_err
#print axioms gen_parse_multi_list_eq
#print axioms gen_parse_multi_list_err
#print axioms gen_parse_list_loop_eq
#print axioms gen_parse_list_loop_err
#print axioms gen_nud_loop_eq
#print axioms gen_nud_loop_err
#print axioms gen_parse_filter_eq
#print axioms gen_parse_filter_err
#print axioms gen_parse_flatten_eq
#print axioms gen_parse_flatten_err
#print axioms gen_parse_wildcard_values_eq
#print axioms gen_parse_wildcard_values_err
#print axioms gen_parse_wildcard_index_eq
#print axioms gen_parse_wildcard_index_err
#print axioms gen_parse_tokens_eq
#print axioms gen_parse_eq_raw
#print axioms gen_parse_fuel_indep
#print axioms gen_parse_no_panic
#print axioms parseTokensR_eq
#print axioms gen_parse_eq
#print axioms gen_parse_eq_tokenize

end JmesVerif
