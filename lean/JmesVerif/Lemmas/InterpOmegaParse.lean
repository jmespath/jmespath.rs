import JmesVerif.Model.Parser
import JmesVerif.Lemmas.InterpOmega
/-!
The divergent expression in concrete syntax: the model parser accepts
`to_array(not_null(&map(@[0], [@]))) | map(@[0], [@])` and the tree it produces diverges.
-/
namespace JmesVerif

def omegaSrc : String := "to_array(not_null(&map(@[0], [@]))) | map(@[0], [@])"

theorem omega_parses : ∃ e, parseExpr omegaSrc.toList
    = .ok (e, omegaAt 36 8 17 18 22 24 23 26 29 30 41 43 42 45 48 49) := by
  simp only [omegaSrc, String.reduceToList]
  exact ⟨_, by with_unfolding_all rfl⟩

/-- the concrete expression parses, and its tree runs out of every fuel budget on every datum -/
theorem omegaSrc_diverges : ∃ e a, parseExpr omegaSrc.toList = .ok (e, a) ∧
    ∀ (fuel : Nat) (d : Val), search Registry.default fuel a d = .error .fuel := by
  obtain ⟨e, he⟩ := omega_parses
  exact ⟨e, _, he, fun fuel d => by simp [search, omegaAt_diverges]⟩

end JmesVerif
