import JmesVerif.Lemmas.ParserCompleteAux
/-!
T2 (completeness): every `Legal` concrete syntax tree is what the parser returns on its yield.
This file: the induction steps for `led` and `nud`, the strong induction on fuel, and `T2_expr`.
-/
namespace JmesVerif
open Parser

theorem DotRhs.first_ne_star (d : DotRhs) (k : Nat) (hl : d.Legal k) (hs : d.startsWithStar = false) :
    ∃ t rest, d.toks = t :: rest ∧ t ≠ .star := by
  cases d with
  | mlist es => exact ⟨_, _, rfl, by simp⟩
  | expr e =>
    obtain ⟨h, ls⟩ := e
    have hb := hl.2
    simp only [Expr.headIsDot] at hb
    simp only [DotRhs.startsWithStar] at hs
    cases h <;> simp [Nud.isDotHead] at hb <;> simp [Nud.isStar] at hs <;>
      simp [DotRhs.toks, Expr.toks, Nud.toks]

theorem comp_led (n : Nat) (ih : ∀ m, m < n → Comp m) (l : Led) (left : Ast) (ts : List PT) (r0 : List Tok) (off : Nat)
    (hsz : l.size ≤ n) (hl : l.Legal) (hcd : l.isCallDev = false) (hy : tk ts = l.toks ++ r0)
    (h2 : (peekL r0).lbp ≤ l.follow) :
    ∃ a ts' off', Parser.led n left ts off = .ok ((l, a), ts', off') ∧ tk ts' = r0 := by
  obtain ⟨f', rfl⟩ : ∃ f', n = f' + 2 := ⟨n - 2, by have := l.three_le_size; omega⟩
  have ih0 := ih f' (by omega)
  have ih1 := ih (f'+1) (by omega)
  cases l
  case callDev => cases hcd
  all_goals
    simp only [Led.toks, Led.size, Led.Legal, Led.follow, List.cons_append, List.append_assoc,
      List.nil_append] at hy hsz hl h2
    obtain ⟨p, ts₁, rfl, hy1⟩ := tk_cons_inv hy
  case dotStar r =>
    obtain ⟨p2, ts₂, rfl, hy2⟩ := tk_cons_inv hy1
    obtain ⟨a, ts', off', hp, htk⟩ := wildcardValues_complete f' ih0 r left ts₂ r0 p2 (by omega) hl hy2 h2
    simp only [Parser.led, hp]
    exact ⟨_, _, _, rfl, htk⟩
  case dot d =>
    obtain ⟨a, ts', off', hp, htk⟩ := ih1.dot d 40 ts₁ r0 p (by omega) hl.1 (by omega) hy1 h2
    obtain ⟨t, rest, ht1, ht2⟩ := d.first_ne_star 40 hl.1 hl.2
    rw [Parser.led.eq_4 _ _ _ _ _ (by
      intro p2 r2 h; subst h; rw [ht1] at hy1; simp at hy1; exact ht2 hy1.1.symm)]
    simp only [hp]
    exact ⟨_, _, _, rfl, htk⟩
  case index i =>
    obtain ⟨a, ts', off', hp, htk⟩ := parseIndex_idx f' i ts₁ r0 p hy1
    obtain ⟨p2, ts₂, rfl, hy2⟩ := tk_cons_inv hy1
    simp only [Parser.led, hp]
    exact ⟨_, _, _, rfl, htk⟩
  case sliceL h r =>
    obtain ⟨a, ts', off', hp, htk⟩ := parseIndex_slice f' ih0 h r ts₁ r0 p (by omega) hl hy1 h2
    rcases h.toks_first (.rbracket :: (r.toks ++ r0)) with ⟨i, rest, hh⟩ | ⟨rest, hh⟩
    all_goals
      rw [hh] at hy1
      obtain ⟨p2, ts₂, rfl, hy2⟩ := tk_cons_inv hy1
      simp only [Parser.led, hp]
      exact ⟨_, _, _, rfl, htk⟩
  case wildIdxL r =>
    obtain ⟨p2, ts₂, rfl, hy2⟩ := tk_cons_inv hy1
    obtain ⟨a, ts', off', hp, htk⟩ := wildcardIndex_complete f' ih0 r left ts₂ r0 p2 (by omega) hl hy2 h2
    simp only [Parser.led, hp]
    exact ⟨_, _, _, rfl, htk⟩
  case or e | and e | pipe e =>
    obtain ⟨a, ts', off', hp, htk, _⟩ := ih1.expr e _ ts₁ r0 p (by omega) hl (by omega) hy1 (by omega) (by omega)
    simp only [Parser.led, hp]
    exact ⟨_, _, _, rfl, htk⟩
  case cmp o e =>
    obtain ⟨a, ts', off', hp, htk, _⟩ := ih1.expr e 5 ts₁ r0 p (by omega) hl (by omega) hy1 (by omega) (by omega)
    cases o <;> simp [Parser.led, cmpTok, cmpOfTok, hp] <;> exact ⟨_, _, ⟨rfl, rfl⟩, htk⟩
  case flattenL r =>
    obtain ⟨a, ts', off', hp, htk⟩ := parseFlatten_complete f' ih0 r left ts₁ r0 p (by omega) hl hy1 h2
    simp only [Parser.led, hp]
    exact ⟨_, _, _, rfl, htk⟩
  case filterL pe r =>
    obtain ⟨a, ts', off', hp, htk⟩ := parseFilter_complete f' ih0 pe r left ts₁ r0 p (by omega) (by omega) hl.1 hl.2 hy1 h2
    simp only [Parser.led, hp]
    exact ⟨_, _, _, rfl, htk⟩

theorem mlist_dispatch (e : Expr) (es : List Expr) (hs : isStarOnly (e :: es) = false) (X : List Tok) :
    ∃ t rest, argsToks (e :: es) ++ .rbracket :: X = t :: rest ∧ t.nudStart = true ∧
      (t = .star → ∀ rest', rest ≠ .rbracket :: rest') := by
  obtain ⟨h, ls⟩ := e
  by_cases hstar : h.isStar = true
  · cases h <;> simp [Nud.isStar] at hstar
    rename_i r
    refine ⟨.star, _, by simp only [argsToks, Expr.toks, Nud.toks, List.cons_append, List.append_assoc]; rfl, rfl, fun _ => ?_⟩
    cases r with
    | dot d => simp [Rhs.toks]
    | bracket e' =>
      obtain ⟨t', rest', h1, h2⟩ := e'.toks_first
      simp only [Rhs.toks, h1, List.cons_append]
      intro rest'' hh
      simp only [List.cons.injEq] at hh
      rw [hh.1] at h2; simp [Tok.nudStart] at h2
    | none =>
      simp only [Rhs.toks, List.nil_append]
      cases ls with
      | cons l ls' =>
        obtain ⟨t', rest', h1, _, _, h4⟩ := l.toks_first
        simp only [ledsToks, h1, List.cons_append]
        intro rest'' hh
        simp only [List.cons.injEq] at hh
        exact h4 hh.1
      | nil =>
        cases es with
        | nil => simp [isStarOnly] at hs
        | cons e' es' => simp [ledsToks, argsTail]
  · obtain ⟨t, rest, h1, h2⟩ := h.toks_first
    refine ⟨t, _, by simp only [argsToks, Expr.toks, h1, List.cons_append, List.append_assoc]; rfl, h2, fun ht => ?_⟩
    subst ht
    cases h <;> simp [Nud.toks] at h1 <;> simp [Nud.isStar] at hstar

theorem comp_nud (n : Nat) (ih : ∀ m, m < n → Comp m) (h : Nud) (ts : List PT) (r0 : List Tok) (off : Nat)
    (hsz : h.size ≤ n) (hl : h.Legal) (hcall : h.isCall = false) (hy : tk ts = h.toks ++ r0)
    (h2 : (peekL r0).lbp ≤ h.follow) (hq : h.isQfield = true → peekL r0 ≠ .lparen) :
    ∃ a ts' off', Parser.nud n ts off = .ok ((h, a), ts', off') ∧ tk ts' = r0 ∧
      ((Expr.mk h []).isField = true → IsFieldAst a) := by
  obtain ⟨f', rfl⟩ : ∃ f', n = f' + 2 := ⟨n - 2, by have := h.three_le_size; omega⟩
  have ih0 := ih f' (by omega)
  have ih1 := ih (f'+1) (by omega)
  cases h
  case call => cases hcall
  all_goals
    simp only [Nud.toks, Nud.size, Nud.Legal, Nud.follow, List.cons_append, List.append_assoc,
      List.nil_append] at hy hsz hl h2
    obtain ⟨p, ts₁, rfl, hy1⟩ := tk_cons_inv hy
  case «at» | lit => exact ⟨_, _, _, Parser.nud.eq_def .., hy1, nofun⟩
  case field s => exact ⟨_, _, _, Parser.nud.eq_def .., hy1, fun _ => ⟨_, _, rfl⟩⟩
  case qfield s =>
    have hq' := hq rfl
    rw [← hy1, ← peekT_eq_peekL] at hq'
    simp only [Parser.nud]
    exact ⟨_, _, _, rfl, hy1, fun _ => ⟨_, _, rfl⟩⟩
  case star r =>
    obtain ⟨a, ts', off', hp, htk⟩ := wildcardValues_complete f' ih0 r (.identity p) ts₁ r0 p (by omega) hl hy1 h2
    simp only [Parser.nud, hp]
    exact ⟨_, _, _, rfl, htk, nofun⟩
  case idx i =>
    obtain ⟨a, ts', off', hp, htk⟩ := parseIndex_idx f' i ts₁ r0 p hy1
    obtain ⟨p2, ts₂, rfl, hy2⟩ := tk_cons_inv hy1
    simp only [Parser.nud, hp]
    exact ⟨_, _, _, rfl, htk, nofun⟩
  case slice hd r =>
    obtain ⟨a, ts', off', hp, htk⟩ := parseIndex_slice f' ih0 hd r ts₁ r0 p (by omega) hl hy1 h2
    rcases hd.toks_first (.rbracket :: (r.toks ++ r0)) with ⟨i, rest, hh⟩ | ⟨rest, hh⟩
    all_goals
      rw [hh] at hy1
      obtain ⟨p2, ts₂, rfl, hy2⟩ := tk_cons_inv hy1
      simp only [Parser.nud, hp]
      exact ⟨_, _, _, rfl, htk, nofun⟩
  case wildIdx r =>
    obtain ⟨p2, ts₂, rfl, hy2⟩ := tk_cons_inv hy1
    obtain ⟨a, ts', off', hp, htk⟩ := wildcardIndex_complete f' ih0 r (.identity p) ts₂ r0 p2 (by omega) hl hy2 h2
    obtain ⟨p3, ts₃, rfl, hy3⟩ := tk_cons_inv hy2
    simp only [Parser.nud, hp]
    exact ⟨_, _, _, rfl, htk, nofun⟩
  case mlist es =>
    cases es with
    | nil => simp at hl
    | cons e es =>
    obtain ⟨a, ts', off', hp, htk⟩ := multiList_complete f' ih0 e es ts₁ r0 p (by omega) hl.2.2 hy1
    obtain ⟨t, rest, hd1, hd2, hd3⟩ := mlist_dispatch e es hl.2.1 r0
    rw [hd1] at hy1
    rw [Parser.nud.eq_11 _ _ _ _
      (by intro q i tl hh; subst hh; simp at hy1; rw [← hy1.1] at hd2; simp [Tok.nudStart] at hd2)
      (by intro q tl hh; subst hh; simp at hy1; rw [← hy1.1] at hd2; simp [Tok.nudStart] at hd2)
      (by intro q q' tl hh; subst hh; simp at hy1; exact hd3 hy1.1.symm _ hy1.2.symm)]
    simp only [hp]
    exact ⟨_, _, _, rfl, htk, nofun⟩
  case flatten r =>
    obtain ⟨a, ts', off', hp, htk⟩ := parseFlatten_complete f' ih0 r (.identity p) ts₁ r0 p (by omega) hl hy1 h2
    simp only [Parser.nud, hp]
    exact ⟨_, _, _, rfl, htk, nofun⟩
  case mhash kvs =>
    cases kvs with
    | nil => simp at hl
    | cons kv kvs =>
    obtain ⟨a, ts', off', hp, htk⟩ := ih1.kvs kv kvs ts₁ r0 p [] [] (by omega) hl.2 hy1
    simp only [List.nil_append] at hp
    simp only [Parser.nud, hp]
    exact ⟨_, _, _, rfl, htk, nofun⟩
  case not e | expref e =>
    obtain ⟨a, ts', off', hp, htk, _⟩ := ih1.expr e _ ts₁ r0 p (by omega) hl (by omega) hy1 (by omega) (by omega)
    simp only [Parser.nud, hp]
    exact ⟨_, _, _, rfl, htk, nofun⟩
  case filter pe r =>
    obtain ⟨a, ts', off', hp, htk⟩ := parseFilter_complete f' ih0 pe r (.identity p) ts₁ r0 p (by omega) (by omega) hl.1 hl.2 hy1 h2
    simp only [Parser.nud, hp]
    exact ⟨_, _, _, rfl, htk, nofun⟩
  case paren e =>
    obtain ⟨a, ts', off', hp, htk, hfa⟩ := ih1.expr e 0 ts₁ (.rparen :: r0) p (by omega) hl (by omega) hy1
      (by simp [Tok.lbp]) (by simp [Tok.lbp])
    obtain ⟨p2, ts₂, rfl, hy2⟩ := tk_cons_inv htk
    simp only [Parser.nud, hp]
    exact ⟨_, _, _, rfl, hy2, hfa⟩

theorem comp_all (n : Nat) : Comp n := by
  induction n using Nat.strongRecOn with
  | _ n ih =>
    exact ⟨comp_expr n ih, comp_loop n ih, comp_nud n ih, comp_led n ih, comp_rhs n ih, comp_dot n ih,
      comp_args n ih, comp_kvs n ih⟩

/-- **T2**: a `Legal` tree, spelled out as tokens and followed by a token that does not continue it,
is parsed back to itself; `e.size` fuel suffices.  Only for `rbp < 60` (`T2_needs_rbp`); the largest
power the parser itself passes is 45, for the operand of `!`. -/
theorem T2_expr (e : Expr) (rbp : Nat) (hl : e.Legal rbp) (hr : rbp < 60) (ts : List PT) (r0 : List Tok) (off : Nat)
    (hy : tk ts = e.toks ++ r0) (h1 : (peekL r0).lbp ≤ rbp) (h2 : (peekL r0).lbp ≤ e.follow) :
    ∃ n, ∀ fuel, n ≤ fuel → ∃ a ts' off', Parser.expr fuel rbp ts off = .ok ((e, a), ts', off') ∧ tk ts' = r0 := by
  refine ⟨e.size, fun fuel hf => ?_⟩
  obtain ⟨a, ts', off', h, htk, _⟩ := (comp_all fuel).expr e rbp ts r0 off hf hl hr hy h1 h2
  exact ⟨a, ts', off', h, htk⟩

/-- at `rbp = 60` the loop does not take a `(`, so a `.call` head, `Legal` at every `rbp`, is not rebuilt -/
theorem T2_needs_rbp : ∃ (e : Expr) (rbp : Nat) (ts : List PT) (r0 : List Tok) (off : Nat),
    e.Legal rbp ∧ tk ts = e.toks ++ r0 ∧ (peekL r0).lbp ≤ rbp ∧ (peekL r0).lbp ≤ e.follow ∧
    ∀ fuel a ts' off', Parser.expr fuel rbp ts off ≠ .ok ((e, a), ts', off') := by
  refine ⟨.mk (.call "f" []) [], 60, [(0, .identifier "f"), (1, .lparen), (2, .rparen)], [], 0, ?_, ?_, ?_, ?_, ?_⟩
  · simp [Expr.Legal, Nud.Legal, argsLegal, chain, callDevOk]
  · simp [tk, Expr.toks, Nud.toks, argsToks, ledsToks]
  · simp [peekL, Tok.lbp]
  · simp [peekL, Tok.lbp]
  · intro fuel a ts' off'
    rcases fuel with _ | _ | _ | f <;> simp [Parser.expr, Parser.nud, Parser.loop, Parser.peekT, Tok.lbp]

end JmesVerif
