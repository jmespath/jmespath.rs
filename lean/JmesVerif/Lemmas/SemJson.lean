import JmesVerif.Spec.Sem
/-
What the operations of the semantics (`field`, `index`, `values`, `flatten1`, slices, `optMapM`) do
to membership, and hence that they keep JSON values JSON; then the same for the combinators a
semantics is built from (sequencing, `&&`/`||`, multi-selects, the projections, the filter body).
-/
namespace JmesVerif
open Spec

theorem valsJson_iff {xs : List Val} : valsJson xs = true ↔ ∀ x ∈ xs, x.isJson = true := by
  induction xs with
  | nil => simp [valsJson]
  | cons x r ih => simp [valsJson, ih]

theorem kvsJson_iff {kvs : List (String × Val)} :
    kvsJson kvs = true ↔ ∀ p ∈ kvs, p.2.isJson = true := by
  induction kvs with
  | nil => simp [kvsJson]
  | cons p r ih => obtain ⟨k, v⟩ := p; simp [kvsJson, ih]

theorem arr_json {xs : List Val} : (Val.arr xs).isJson = true ↔ ∀ x ∈ xs, x.isJson = true := by
  simp [Val.isJson, valsJson_iff]

theorem obj_json {kvs : List (String × Val)} :
    (Val.obj kvs).isJson = true ↔ ∀ p ∈ kvs, p.2.isJson = true := by
  simp [Val.isJson, kvsJson_iff]

theorem lookup_mem {k : String} {kvs : List (String × Val)} {v : Val}
    (h : Val.lookup k kvs = some v) : (k, v) ∈ kvs := by
  induction kvs with
  | nil => simp [Val.lookup] at h
  | cons p r ih =>
    obtain ⟨k', v'⟩ := p
    simp only [Val.lookup] at h
    split at h
    · simp_all
    · simp [ih h]

theorem mem_values {kvs : List (String × Val)} {x : Val} (h : x ∈ Sem.values kvs) :
    ∃ p ∈ kvs, p.2 = x := by
  simpa [Sem.values] using h

theorem mem_pyIndex {α : Type} {xs : List α} {n : Int} {x : α} (h : pyIndex xs n = some x) : x ∈ xs := by
  unfold pyIndex at h
  generalize (if n < 0 then (xs.length : Int) + n else n) = k at h
  simp only [] at h
  split at h
  · simp at h
  · exact List.mem_of_getElem? h

theorem mem_pySlice {α : Type} {xs : List α} {a b : Option Int} {c : Int} {x : α}
    (h : x ∈ pySlice xs a b c) : x ∈ xs := by
  unfold pySlice at h
  simp only [List.mem_filterMap] at h
  obtain ⟨k, _, hk⟩ := h
  split at hk
  · simp at hk
  · exact List.mem_of_getElem? hk

theorem mem_flatten1 {xs : List Val} {x : Val} (h : x ∈ Sem.flatten1 xs) :
    x ∈ xs ∨ ∃ ys, Val.arr ys ∈ xs ∧ x ∈ ys := by
  induction xs with
  | nil => simp [Sem.flatten1] at h
  | cons y r ih =>
    cases y with
    | arr ys =>
      simp only [Sem.flatten1, List.mem_append] at h
      rcases h with h | h
      · exact Or.inr ⟨ys, by simp, h⟩
      · rcases ih h with h | ⟨zs, h1, h2⟩
        · exact Or.inl (by simp [h])
        · exact Or.inr ⟨zs, by simp [h1], h2⟩
    | _ =>
      simp only [Sem.flatten1, List.mem_cons] at h
      rcases h with h | h
      · exact Or.inl (by simp [h])
      · rcases ih h with h | ⟨zs, h1, h2⟩
        · exact Or.inl (by simp [h])
        · exact Or.inr ⟨zs, by simp [h1], h2⟩

theorem mem_dropNulls {ys : List Val} {y : Val} (h : y ∈ Sem.dropNulls ys) : y ∈ ys := by
  simp only [Sem.dropNulls, List.mem_filter] at h
  exact h.1

theorem optMapM_mem {f : Val → Option Val} :
    ∀ {xs ys : List Val}, Sem.optMapM f xs = some ys → ∀ y ∈ ys, ∃ x ∈ xs, f x = some y
  | [], ys, h, y, hy => by simp [Sem.optMapM] at h; subst h; simp at hy
  | x :: r, ys, h, y, hy => by
    simp only [Sem.optMapM] at h
    cases hfx : f x with
    | none => simp [hfx] at h
    | some v =>
      simp only [hfx] at h
      cases hm : Sem.optMapM f r with
      | none => simp [hm] at h
      | some zs =>
        simp only [hm, Option.map_some, Option.some.injEq] at h
        subst h
        rcases List.mem_cons.mp hy with rfl | hy
        · exact ⟨x, by simp, hfx⟩
        · obtain ⟨x', hx', hf'⟩ := optMapM_mem hm y hy
          exact ⟨x', by simp [hx'], hf'⟩

theorem field_json {d : Val} (k : String) (hd : d.isJson = true) : (Sem.field d k).isJson = true := by
  cases d with
  | obj kvs =>
    simp only [Sem.field]
    cases h : Val.lookup k kvs with
    | none => rfl
    | some v => exact obj_json.mp hd _ (lookup_mem h)
  | _ => rfl

theorem index_json {d : Val} (n : Int) (hd : d.isJson = true) : (Sem.index d n).isJson = true := by
  cases d with
  | arr xs =>
    simp only [Sem.index]
    cases h : pyIndex xs n with
    | none => rfl
    | some v => exact arr_json.mp hd _ (mem_pyIndex h)
  | _ => rfl

theorem cmpVal_json (o : Cmp) (l r : Val) : (Sem.cmpVal o l r).isJson = true := by
  unfold Sem.cmpVal; cases Val.compare o l r <;> rfl

/-- the result of a projection is JSON when every mapped element is -/
theorem proj_json {f : Val → Option Val} {xs : List Val} {v : Val}
    (hf : ∀ x ∈ xs, ∀ y, f x = some y → y.isJson = true)
    (h : ((Sem.optMapM f xs).map fun ys => Val.arr (Sem.dropNulls ys)) = some v) :
    v.isJson = true := by
  cases hm : Sem.optMapM f xs with
  | none => simp [hm] at h
  | some ys =>
    simp only [hm, Option.map_some, Option.some.injEq] at h
    subst h
    refine arr_json.mpr fun y hy => ?_
    obtain ⟨x, hx, hfx⟩ := optMapM_mem hm y (mem_dropNulls hy)
    exact hf x hx y hfx

theorem values_json {kvs : List (String × Val)} (h : (Val.obj kvs).isJson = true) :
    ∀ x ∈ Sem.values kvs, x.isJson = true := by
  intro x hx
  obtain ⟨p, hp, rfl⟩ := mem_values hx
  exact obj_json.mp h p hp

theorem flatten1_json {xs : List Val} (h : (Val.arr xs).isJson = true) :
    ∀ x ∈ Sem.flatten1 xs, x.isJson = true := by
  intro x hx
  rcases mem_flatten1 hx with hx | ⟨ys, h1, h2⟩
  · exact arr_json.mp h x hx
  · exact arr_json.mp (arr_json.mp h _ h1) x h2

theorem pySlice_json {xs : List Val} {a b : Option Int} {c : Int} (h : (Val.arr xs).isJson = true) :
    ∀ x ∈ pySlice xs a b c, x.isJson = true :=
  fun x hx => arr_json.mp h x (mem_pySlice hx)

/-! ### the combinators of the semantics keep results JSON

`o`, `f`, `k` stand for the evaluators of sub-terms; `Lemmas/SemFullJson.lean` instantiates them
with those of `SemFull`. -/

theorem map_json {o : Option Val} {g : Val → Val} (hg : ∀ x, (g x).isJson = true) :
    ∀ v, o.map g = some v → v.isJson = true := by
  intro v hv
  cases o <;> simp at hv
  subst hv; exact hg _

theorem orand_json {c : Bool} {lv : Val} {o : Option Val} (hl : lv.isJson = true)
    (ih : ∀ v, o = some v → v.isJson = true) :
    ∀ v, (if c then some lv else o) = some v → v.isJson = true := by
  intro v hv
  split at hv
  · cases hv; exact hl
  · exact ih v hv

theorem mlist_json {o : Option (List Val)} {d : Val}
    (ih : ∀ vs, o = some vs → ∀ v ∈ vs, v.isJson = true) :
    ∀ v : Val, (if d.isNull then some .null else o.map .arr) = some v → v.isJson = true := by
  intro v hv
  split at hv
  · cases hv; rfl
  · cases ho : o <;> simp [ho] at hv
    subst hv; exact arr_json.mpr (ih _ ho)

theorem mhash_json {o : Option (List (String × Val))} {d : Val}
    (ih : ∀ m, o = some m → ∀ p ∈ m, p.2.isJson = true) :
    ∀ v : Val, (if d.isNull then some .null else o.map .obj) = some v → v.isJson = true := by
  intro v hv
  split at hv
  · cases hv; rfl
  · cases ho : o <;> simp [ho] at hv
    subst hv; exact obj_json.mpr (ih _ ho)

theorem seq_json {o : Option Val} {k : Val → Option Val} (h1 : ∀ v, o = some v → v.isJson = true)
    (h2 : ∀ v, v.isJson = true → ∀ u, k v = some u → u.isJson = true) :
    ∀ u : Val, (match o with | none => none | some v => k v) = some u → u.isJson = true := by
  intro u hu
  cases ho : o with
  | none => simp [ho] at hu
  | some v => simp only [ho] at hu; exact h2 v (h1 v ho) u hu

/-- a projection over the elements `sel xs` (all, the flattening, a slice) of an array `xs` -/
theorem arrProj_json {f : Val → Option Val} {sel : List Val → List Val} {lv : Val}
    (hsel : ∀ xs, lv = .arr xs → ∀ x ∈ sel xs, x.isJson = true)
    (ih : ∀ x : Val, x.isJson = true → ∀ v, f x = some v → v.isJson = true) :
    ∀ v, (match lv with
      | .arr xs => (Sem.optMapM f (sel xs)).map fun ys => Val.arr (Sem.dropNulls ys)
      | _ => some .null) = some v → v.isJson = true := by
  intro v hv
  cases lv with
  | arr xs => exact proj_json (fun x hx => ih x (hsel xs rfl x hx)) hv
  | _ => cases hv; rfl

theorem objProj_json {f : Val → Option Val} {lv : Val} (hl : lv.isJson = true)
    (ih : ∀ x : Val, x.isJson = true → ∀ v, f x = some v → v.isJson = true) :
    ∀ v, (match lv with
      | .obj m => (Sem.optMapM f (Sem.values m)).map fun ys => Val.arr (Sem.dropNulls ys)
      | _ => some .null) = some v → v.isJson = true := by
  intro v hv
  cases lv with
  | obj m => exact proj_json (fun x hx => ih x (values_json hl x hx)) hv
  | _ => cases hv; rfl

theorem sliceProj_json {f : Val → Option Val} {lv : Val} {lo hi : Option Int} {step : Int}
    (hl : lv.isJson = true)
    (ih : ∀ x : Val, x.isJson = true → ∀ v, f x = some v → v.isJson = true) :
    ∀ v, (if step = 0 then none else
      match lv with
      | .arr xs => (Sem.optMapM f (pySlice xs lo hi step)).map fun ys => Val.arr (Sem.dropNulls ys)
      | _ => some .null) = some v → v.isJson = true := by
  intro v hv
  split at hv
  · cases hv
  · exact arrProj_json (sel := fun xs => pySlice xs lo hi step)
      (fun xs h => pySlice_json (h ▸ hl)) ih v hv

/-- the body of a filter projection -/
theorem filt_json {g f : Val → Option Val}
    (ih : ∀ x : Val, x.isJson = true → ∀ v, f x = some v → v.isJson = true) (x : Val)
    (hx : x.isJson = true) :
    ∀ v, (match g x with
      | none => none
      | some c => if Sem.truthy c then f x else some .null) = some v → v.isJson = true := by
  intro v hv
  cases hp : g x with
  | none => simp [hp] at hv
  | some c =>
    simp only [hp] at hv
    split at hv
    · exact ih x hx v hv
    · cases hv; rfl

end JmesVerif
