import JmesVerif.Lemmas.Paren
/-!
`Paren.parenthesize` keeps a tree `Legal`.  The `p…` functions keep `lbp` and the head predicates, and
`follow` can only grow, every operand becoming a parenthesis, whose follow is `INF`; so each `chain` survives.
-/
namespace JmesVerif
open Paren

/-- `wrap` always yields a parenthesised head without applications -/
theorem wrap_shape (x : Expr) : ∃ y, wrap x = .mk (.paren y) [] := by
  unfold wrap
  split
  · exact ⟨_, rfl⟩
  · exact ⟨_, rfl⟩

theorem wrap_follow (x : Expr) : (wrap x).follow = INF := by
  obtain ⟨y, hy⟩ := wrap_shape x
  rw [hy]; simp [Expr.follow, ledsFollow, Nud.follow]


theorem chain_mono_rbp {k k' : Nat} (hk : k' ≤ k) : ∀ (f : Nat) (ls : List Led), chain k f ls → chain k' f ls
  | _, [] => by simp [chain]
  | f, l :: ls => by
    simp only [chain]
    intro ⟨h1, h2, h3, h4⟩
    exact ⟨by omega, h2, h3, chain_mono_rbp hk _ ls h4⟩

theorem chain_mono_f {k f f' : Nat} (hf : f ≤ f') : ∀ (ls : List Led), chain k f ls → chain k f' ls
  | [] => by simp [chain]
  | l :: ls => by
    simp only [chain]
    intro ⟨h1, h2, h3, h4⟩
    exact ⟨h1, by omega, h3, h4⟩

theorem Expr.Legal_mono {k k' : Nat} (hk : k' ≤ k) : ∀ e : Expr, e.Legal k → e.Legal k'
  | .mk h ls => by
    simp only [Expr.Legal]
    intro ⟨h1, h2, h3⟩
    exact ⟨h1, chain_mono_rbp hk _ _ h2, h3⟩

/-- a wrapped expression is legal at every power: inside parentheses the ambient power is 0 -/
theorem wrap_legal (x : Expr) {k : Nat} (k' : Nat) (h : x.Legal k) : (wrap x).Legal k' := by
  have h := Expr.Legal_mono (Nat.zero_le k) x h
  unfold wrap
  split
  · exact h
  · exact ⟨h, trivial, trivial⟩


theorem pLed_lbp (l : Led) : (pLed l).lbp = l.lbp := by
  cases l <;> rfl

theorem pLed_isCallDev (l : Led) : (pLed l).isCallDev = l.isCallDev := by
  cases l <;> rfl

theorem pNud_isBracketHead (h : Nud) : (pNud h).isBracketHead = h.isBracketHead := by
  cases h <;> rfl

theorem pNud_isDotHead (h : Nud) : (pNud h).isDotHead = h.isDotHead := by
  cases h <;> rfl

theorem pNud_isStar (h : Nud) : (pNud h).isStar = h.isStar := by
  cases h <;> rfl

theorem pInner_headIsBracket (e : Expr) : (pInner e).headIsBracket = e.headIsBracket := by
  cases e; exact pNud_isBracketHead _

theorem pInner_headIsDot (e : Expr) : (pInner e).headIsDot = e.headIsDot := by
  cases e; exact pNud_isDotHead _

theorem pDot_startsWithStar (d : DotRhs) : (pDot d).startsWithStar = d.startsWithStar := by
  cases d with
  | mlist es => rfl
  | expr e => cases e; exact pNud_isStar _

theorem mem_pLeds : ∀ (ls : List Led) (l' : Led), l' ∈ pLeds ls → ∃ l ∈ ls, l' = pLed l
  | [], l' => by simp [pLeds]
  | l :: ls, l' => by
    simp only [pLeds, List.mem_cons]
    rintro (h | h)
    · exact ⟨l, Or.inl rfl, h⟩
    · obtain ⟨x, hx, hx'⟩ := mem_pLeds ls l' h
      exact ⟨x, Or.inr hx, hx'⟩

theorem pElems_ne_nil : ∀ es : List Expr, es ≠ [] → pElems es ≠ []
  | [], h => absurd rfl h
  | e :: es, _ => by simp [pElems]

theorem pArgs_ne_nil : ∀ es : List Expr, es ≠ [] → pArgs es ≠ []
  | [], h => absurd rfl h
  | e :: es, _ => by simp [pArgs]

theorem pKvs_ne_nil : ∀ kvs : List (Bool × String × Expr), kvs ≠ [] → pKvs kvs ≠ []
  | [], h => absurd rfl h
  | (q, s, e) :: r, _ => by simp [pKvs]

theorem pElems_not_starOnly : ∀ es : List Expr, isStarOnly (pElems es) = false
  | [] => by simp [pElems, isStarOnly]
  | e :: es => by
    simp only [pElems]
    obtain ⟨y, hy⟩ := wrap_shape (pExpr e)
    rw [hy]
    simp [isStarOnly]

/-! ### a parenthesised field stays one -/

mutual
theorem pExpr_isField : ∀ e : Expr, e.isField = true → (pExpr e).isField = true
  | .mk h [] => pNud_isField h
  | .mk h (_ :: _) => fun hf => by cases h <;> cases hf
theorem pNud_isField : ∀ h : Nud, (Expr.mk h []).isField = true → (Expr.mk (pNud h) []).isField = true := by
  intro h hf
  cases h with
  | paren e => exact pExpr_isField e hf
  | field _ | qfield _ => rfl
  | _ => cases hf
end

/-! ### `follow` can only grow (operands become parenthesised, whose follow is `INF`) -/

/-- an operand is wrapped, and nothing limits what may follow a parenthesis -/
theorem min_follow_wrap {k : Nat} (hk : k ≤ INF) (f : Nat) (x : Expr) : min k f ≤ min k (wrap x).follow := by
  rw [wrap_follow]; omega

mutual
theorem pNud_follow : ∀ h : Nud, h.follow ≤ (pNud h).follow
  | .at | .field _ | .qfield _ | .call _ _ | .lit _ | .idx _ | .mlist _ | .mhash _ | .paren _ => Nat.le_refl _
  | .star r | .slice _ r | .wildIdx r => pRhs_follow r 20
  | .flatten r => pRhs_follow r 9
  | .filter _ r => pRhs_follow r 21
  | .not _ => min_follow_wrap (by decide) ..
  | .expref _ => min_follow_wrap (by decide) ..
theorem pLed_follow : ∀ l : Led, l.follow ≤ (pLed l).follow
  | .index _ | .callDev _ => Nat.le_refl _
  | .dotStar r | .sliceL _ r | .wildIdxL r => pRhs_follow r 20
  | .dot d => pDot_follow d 40
  | .flattenL r => pRhs_follow r 9
  | .filterL _ r => pRhs_follow r 21
  | .or _ | .and _ | .pipe _ | .cmp _ _ => min_follow_wrap (by decide) ..
theorem pRhs_follow : ∀ (r : Rhs) (k : Nat), r.follow k ≤ (pRhs r).follow k
  | .none, _ => Nat.le_refl _
  | .dot d, k => pDot_follow d k
  | .bracket e, k => by
    have := pInner_follow e
    show min k e.follow ≤ min k (pInner e).follow
    omega
theorem pDot_follow : ∀ (d : DotRhs) (k : Nat), d.follow k ≤ (pDot d).follow k
  | .mlist _, _ => Nat.le_refl _
  | .expr e, k => by
    have := pInner_follow e
    show min k e.follow ≤ min k (pInner e).follow
    omega
theorem pInner_follow : ∀ e : Expr, e.follow ≤ (pInner e).follow
  | .mk h ls => pLeds_follow ls _ _ (pNud_follow h)
theorem pLeds_follow : ∀ (ls : List Led) (f f' : Nat), f ≤ f' → ledsFollow f ls ≤ ledsFollow f' (pLeds ls)
  | [], _, _, hf => hf
  | l :: ls, _, _, _ => pLeds_follow ls _ _ (pLed_follow l)
end


theorem pLeds_noCallDev (ls : List Led) (h : ∀ l' ∈ ls, l'.isCallDev = false) :
    ∀ l' ∈ pLeds ls, l'.isCallDev = false := by
  intro l' hl'
  obtain ⟨l, hl, rfl⟩ := mem_pLeds ls l' hl'
  rw [pLed_isCallDev]; exact h l hl

theorem pInner_callDevOk (h : Nud) : ∀ ls : List Led, callDevOk h ls → callDevOk (pNud h) (pLeds ls)
  | [] => by simp [pLeds, callDevOk]
  | l :: ls => by
    simp only [pLeds, callDevOk, pLed_isCallDev]
    intro ⟨h1, h2⟩
    refine ⟨fun hc => ?_, pLeds_noCallDev ls h2⟩
    have h1 := h1 hc
    cases h <;> simp only [pNud] at h1 ⊢ <;> try exact h1.elim
    exact pExpr_isField _ h1


mutual
theorem pExpr_legal : ∀ (e : Expr) (k : Nat), e.Legal k → (pExpr e).Legal k
  | .mk h ls, k => by
    simp only [Expr.Legal, pExpr]
    intro ⟨h1, h2, h3⟩
    refine pSpine_legal (.mk (pNud h) []) ls k h.follow ?_ h2 ?_
    · simp only [Expr.Legal, chain, callDevOk]
      exact ⟨pNud_legal h h1, trivial, trivial⟩
    · intro y hy
      cases ls with
      | nil => simp [callDevOk]
      | cons l ls =>
        simp only [callDevOk] at h3 ⊢
        refine ⟨fun hc => ?_, h3.2⟩
        have h3 := h3.1 hc
        cases h with
        | paren e =>
          simp only [pNud, wrap] at hy
          simp only [Expr.mk.injEq, Nud.paren.injEq, and_true] at hy
          subst hy
          exact pExpr_isField e h3
        | _ => exact h3.elim
/-- `y` is what ends up inside the parentheses of the wrapped accumulated operand -/
theorem pSpine_legal : ∀ (cur : Expr) (ls : List Led) (k f : Nat), cur.Legal k → chain k f ls →
    (∀ y, wrap cur = .mk (.paren y) [] → callDevOk (.paren y) ls) → (pSpine cur ls).Legal k
  | cur, [], k, f => by
    intro hc _ _
    simpa [pSpine] using hc
  | cur, l :: ls, k, f => by
    intro hc hch hcd
    simp only [pSpine]
    obtain ⟨y, hy⟩ := wrap_shape cur
    have hw : (wrap cur).Legal k := wrap_legal cur k hc
    rw [hy] at hw ⊢
    have hcd := hcd y hy
    simp only [chain] at hch
    obtain ⟨c1, _, c3, c4⟩ := hch
    simp only [callDevOk] at hcd
    simp only [List.nil_append]
    refine pSpine_legal _ ls k l.follow ?_ c4 ?_
    · simp only [Expr.Legal, chain, callDevOk, Nud.Legal, pLed_lbp, pLed_isCallDev] at hw ⊢
      refine ⟨hw.1, ⟨c1, ?_, pLed_legal l c3, trivial⟩, hcd.1, ?_⟩
      · cases l <;> simp [Led.lbp, Nud.follow, INF]
      · intro l' hl'; cases hl'
    · intro y' hy'
      cases ls with
      | nil => simp [callDevOk]
      | cons l2 ls2 =>
        simp only [callDevOk]
        refine ⟨fun hc2 => ?_, fun l' hl' => hcd.2 l' (List.mem_cons_of_mem _ hl')⟩
        have := hcd.2 l2 (List.mem_cons_self ..)
        rw [this] at hc2; cases hc2
theorem pInner_legal : ∀ (e : Expr) (k : Nat), e.Legal k → (pInner e).Legal k
  | .mk h ls, k => fun ⟨h1, h2, h3⟩ =>
    ⟨pNud_legal h h1, pLeds_chain ls k _ _ (pNud_follow h) h2, pInner_callDevOk h ls h3⟩
theorem pLeds_chain : ∀ (ls : List Led) (k f f' : Nat), f ≤ f' → chain k f ls → chain k f' (pLeds ls)
  | [], _, _, _, _ => id
  | l :: ls, k, f, f', hf => fun ⟨c1, c2, c3, c4⟩ =>
    ⟨pLed_lbp l ▸ c1, pLed_lbp l ▸ Nat.le_trans c2 hf, pLed_legal l c3, pLeds_chain ls k _ _ (pLed_follow l) c4⟩
theorem pNud_legal : ∀ h : Nud, h.Legal → (pNud h).Legal
  | .at | .field _ | .qfield _ | .lit _ | .idx _ => id
  | .call _ args => pArgs_legal args
  | .star r | .slice _ r | .wildIdx r => pRhs_legal r 20
  | .mlist es => fun ⟨h1, _, h3⟩ => ⟨pElems_ne_nil es h1, pElems_not_starOnly es, pElems_legal es h3⟩
  | .flatten r => pRhs_legal r 9
  | .mhash kvs => fun ⟨h1, h2⟩ => ⟨pKvs_ne_nil kvs h1, pKvs_legal kvs h2⟩
  | .not e => fun h => wrap_legal _ _ (pExpr_legal e 45 h)
  | .filter p r => fun ⟨h1, h2⟩ => ⟨wrap_legal _ _ (pExpr_legal p 0 h1), pRhs_legal r 21 h2⟩
  | .paren e => pExpr_legal e 0
  | .expref e => fun h => wrap_legal _ _ (pExpr_legal e 0 h)
theorem pLed_legal : ∀ l : Led, l.Legal → (pLed l).Legal
  | .index _ => id
  | .dotStar r | .sliceL _ r | .wildIdxL r => pRhs_legal r 20
  | .dot d => fun ⟨h1, h2⟩ => ⟨pDot_legal d 40 h1, (pDot_startsWithStar d).trans h2⟩
  | .or e => fun h => wrap_legal _ _ (pExpr_legal e 2 h)
  | .and e => fun h => wrap_legal _ _ (pExpr_legal e 3 h)
  | .pipe e => fun h => wrap_legal _ _ (pExpr_legal e 1 h)
  | .cmp _ e => fun h => wrap_legal _ _ (pExpr_legal e 5 h)
  | .flattenL r => pRhs_legal r 9
  | .filterL p r => fun ⟨h1, h2⟩ => ⟨wrap_legal _ _ (pExpr_legal p 0 h1), pRhs_legal r 21 h2⟩
  | .callDev args => pArgs_legal args
theorem pRhs_legal : ∀ (r : Rhs) (k : Nat), r.Legal k → (pRhs r).Legal k
  | .none, _ => id
  | .dot d, k => pDot_legal d k
  | .bracket e, k => fun ⟨h1, h2⟩ => ⟨pInner_legal e k h1, (pInner_headIsBracket e).trans h2⟩
theorem pDot_legal : ∀ (d : DotRhs) (k : Nat), d.Legal k → (pDot d).Legal k
  | .mlist es, _ => fun ⟨h1, h2⟩ => ⟨pElems_ne_nil es h1, pElems_legal es h2⟩
  | .expr e, k => fun ⟨h1, h2⟩ => ⟨pInner_legal e k h1, (pInner_headIsDot e).trans h2⟩
theorem pElems_legal : ∀ es : List Expr, argsLegal es → argsLegal (pElems es)
  | [] => id
  | e :: es => fun ⟨h1, h2⟩ => ⟨wrap_legal _ _ (pExpr_legal e 0 h1), pElems_legal es h2⟩
theorem pArgs_legal : ∀ es : List Expr, argsLegal es → argsLegal (pArgs es)
  | [] => id
  | e :: es => fun ⟨h1, h2⟩ => by
    refine ⟨?_, pArgs_legal es h2⟩
    show (if isExprefTop e then pInner e else wrap (pExpr e)).Legal 0
    split
    · exact pInner_legal e 0 h1
    · exact wrap_legal _ _ (pExpr_legal e 0 h1)
theorem pKvs_legal : ∀ kvs : List (Bool × String × Expr), kvsLegal kvs → kvsLegal (pKvs kvs)
  | [] => id
  | (_, _, e) :: r => fun ⟨h1, h2⟩ => ⟨wrap_legal _ _ (pExpr_legal e 0 h1), pKvs_legal r h2⟩
end

theorem parenthesize_legal (e : Expr) (h : e.Legal 0) : (parenthesize e).Legal 0 :=
  pExpr_legal e 0 h

theorem parenthesize_ast (e : Expr) : (parenthesize e).ast = e.ast := pExpr_ast e

end JmesVerif

#print axioms JmesVerif.parenthesize_ast
#print axioms JmesVerif.parenthesize_legal
