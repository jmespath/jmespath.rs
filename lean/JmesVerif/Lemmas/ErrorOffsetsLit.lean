import JmesVerif.Lemmas.ErrorOffsetsInterp
import JmesVerif.Lemmas.Positions
/-!
# Where runtime errors point: `interp_located`, and trees whose literals are JSON

`Ast.callOffsets` / `Ast.sliceOffsets` do not look inside literal values.  On a tree whose literals
are JSON values (`Ast.LitJson` — what the parser builds: `parseExpr_litJson` in
`Lemmas/ErrorOffsetsParse.lean`) they coincide with the deep versions.
-/
namespace JmesVerif

/-- selectors on node descriptors -/
def OKind.callOff : OKind × Nat → Option Nat
  | (.call _, o) => some o
  | _ => none
def OKind.sliceOff : OKind × Nat → Option Nat
  | (.slice, o) => some o
  | _ => none
def OKind.sel (k : Bool) : OKind × Nat → Option Nat := if k then OKind.callOff else OKind.sliceOff

/-- offsets of the call nodes of a tree, including trees held as expression references inside
literal values -/
def Ast.callOffsetsDeep (a : Ast) : List Nat := a.nodesD.filterMap OKind.callOff
/-- offsets of the slice nodes of a tree, including those inside literal values -/
def Ast.sliceOffsetsDeep (a : Ast) : List Nat := a.nodesD.filterMap OKind.sliceOff
/-- offsets of the call nodes of every expression reference nested anywhere in a value -/
def Val.exprefCallOffsets (v : Val) : List Nat := v.exNodes.filterMap OKind.callOff
/-- offsets of the slice nodes of every expression reference nested anywhere in a value -/
def Val.exprefSliceOffsets (v : Val) : List Nat := v.exNodes.filterMap OKind.sliceOff

theorem mem_callOff (o : Nat) (l : List (OKind × Nat)) :
    o ∈ l.filterMap OKind.callOff ↔ ∃ n, (OKind.call n, o) ∈ l := by
  simp only [List.mem_filterMap]
  constructor
  · rintro ⟨⟨k, o'⟩, hm, hk⟩
    cases k <;> simp [OKind.callOff] at hk
    subst hk; exact ⟨_, hm⟩
  · rintro ⟨n, hm⟩; exact ⟨_, hm, rfl⟩
theorem mem_sliceOff (o : Nat) (l : List (OKind × Nat)) :
    o ∈ l.filterMap OKind.sliceOff ↔ (OKind.slice, o) ∈ l := by
  simp only [List.mem_filterMap]
  constructor
  · rintro ⟨⟨k, o'⟩, hm, hk⟩
    cases k <;> simp [OKind.sliceOff] at hk
    subst hk; exact hm
  · intro hm; exact ⟨_, hm, rfl⟩

mutual
/-- every literal of the tree is a JSON value (holds no expression reference) -/
def Ast.LitJson : Ast → Bool
  | .comparison _ _ l r => l.LitJson && r.LitJson
  | .condition _ p t => p.LitJson && t.LitJson
  | .identity _ => true
  | .expref _ a => a.LitJson
  | .flatten _ a => a.LitJson
  | .function _ _ args => Ast.litJsonL args
  | .field _ _ => true
  | .index _ _ => true
  | .literal _ v => v.isJson
  | .multiList _ es => Ast.litJsonL es
  | .multiHash _ kvs => Ast.litJsonK kvs
  | .not _ a => a.LitJson
  | .projection _ l r => l.LitJson && r.LitJson
  | .objectValues _ a => a.LitJson
  | .and _ l r => l.LitJson && r.LitJson
  | .or _ l r => l.LitJson && r.LitJson
  | .slice _ _ _ _ => true
  | .subexpr _ l r => l.LitJson && r.LitJson
def Ast.litJsonL : List Ast → Bool
  | [] => true
  | a :: as => a.LitJson && Ast.litJsonL as
def Ast.litJsonK : List (String × Ast) → Bool
  | [] => true
  | (_, a) :: r => a.LitJson && Ast.litJsonK r
end

mutual
theorem Val.exNodes_json : ∀ v : Val, v.isJson = true → v.exNodes = [] := by
  intro v h
  cases v with
  | arr xs => exact exNodesVs_json xs h
  | obj kvs => exact exNodesKVs_json kvs h
  | expref _ => cases h
  | _ => rfl
theorem exNodesVs_json : ∀ xs : List Val, valsJson xs = true → exNodesVs xs = [] := by
  intro xs h
  cases xs with
  | nil => rfl
  | cons x xs =>
    simp only [valsJson, Bool.and_eq_true] at h
    rw [exNodesVs, Val.exNodes_json x h.1, exNodesVs_json xs h.2]
    rfl
theorem exNodesKVs_json : ∀ kvs : List (String × Val), kvsJson kvs = true → exNodesKVs kvs = [] := by
  intro kvs h
  cases kvs with
  | nil => rfl
  | cons p kvs =>
    simp only [kvsJson, Bool.and_eq_true] at h
    rw [exNodesKVs, Val.exNodes_json p.2 h.1, exNodesKVs_json kvs h.2]
    rfl
end

/-- the shallow offset lists of `Lemmas/Positions.lean`, by kind -/
def Ast.offsS (k : Bool) (a : Ast) : List Nat := if k then a.callOffsets else a.sliceOffsets
def offsSL (k : Bool) (as : List Ast) : List Nat := if k then Ast.callOffsetsL as else Ast.sliceOffsetsL as
def offsSK (k : Bool) (as : List (String × Ast)) : List Nat := if k then Ast.callOffsetsK as else Ast.sliceOffsetsK as

mutual
theorem Ast.offsD_litJson (k : Bool) : ∀ a : Ast, a.LitJson = true → a.nodesD.filterMap (OKind.sel k) = a.offsS k := by
  intro a h
  cases a with
  | comparison _ _ l r | condition _ l r | projection _ l r | and _ l r | or _ l r | subexpr _ l r =>
    simp only [Ast.LitJson, Bool.and_eq_true] at h
    rw [Ast.nodesD, List.filterMap_append, Ast.offsD_litJson k l h.1, Ast.offsD_litJson k r h.2]
    cases k <;> rfl
  | expref _ a | flatten _ a | not _ a | objectValues _ a =>
    rw [Ast.nodesD, Ast.offsD_litJson k a h]
    cases k <;> rfl
  | identity _ | field _ _ | index _ _ | slice _ _ _ _ => cases k <;> rfl
  | literal _ v =>
    rw [Ast.nodesD, Val.exNodes_json v h]
    cases k <;> rfl
  | function o _ args =>
    rw [Ast.nodesD, List.filterMap_cons, offsDL_litJson k args h]
    cases k <;> rfl
  | multiList _ es =>
    rw [Ast.nodesD, offsDL_litJson k es h]
    cases k <;> rfl
  | multiHash _ kvs =>
    rw [Ast.nodesD, offsDK_litJson k kvs h]
    cases k <;> rfl
theorem offsDL_litJson (k : Bool) : ∀ as : List Ast, Ast.litJsonL as = true → (nodesDL as).filterMap (OKind.sel k) = offsSL k as := by
  intro as h
  cases as with
  | nil => cases k <;> rfl
  | cons a as =>
    simp only [Ast.litJsonL, Bool.and_eq_true] at h
    rw [nodesDL, List.filterMap_append, Ast.offsD_litJson k a h.1, offsDL_litJson k as h.2]
    cases k <;> rfl
theorem offsDK_litJson (k : Bool) : ∀ as : List (String × Ast), Ast.litJsonK as = true → (nodesDK as).filterMap (OKind.sel k) = offsSK k as := by
  intro as h
  cases as with
  | nil => cases k <;> rfl
  | cons p as =>
    simp only [Ast.litJsonK, Bool.and_eq_true] at h
    rw [nodesDK, List.filterMap_append, Ast.offsD_litJson k p.2 h.1, offsDK_litJson k as h.2]
    cases k <;> rfl
end

theorem Ast.callOffsetsDeep_eq (a : Ast) (h : a.LitJson = true) : a.callOffsetsDeep = a.callOffsets := by
  simpa [Ast.offsS, Ast.callOffsetsDeep, OKind.sel] using Ast.offsD_litJson true a h
theorem Ast.sliceOffsetsDeep_eq (a : Ast) (h : a.LitJson = true) : a.sliceOffsetsDeep = a.sliceOffsets := by
  simpa [Ast.offsS, Ast.sliceOffsetsDeep, OKind.sel] using Ast.offsD_litJson false a h
theorem Val.exprefCallOffsets_json (v : Val) (h : v.isJson = true) : v.exprefCallOffsets = [] := by
  simp [Val.exprefCallOffsets, Val.exNodes_json v h]
theorem Val.exprefSliceOffsets_json (v : Val) (h : v.isJson = true) : v.exprefSliceOffsets = [] := by
  simp [Val.exprefSliceOffsets, Val.exNodes_json v h]

/-- the predicate the invariant is instantiated with: the node occurs in the tree or in an
expression reference held in the input data -/
def FromInput (a : Ast) (d : Val) (k : OKind) (o : Nat) : Prop := (k, o) ∈ a.nodesD ++ d.exNodes

/-- every outcome of `interp`: expression references in the value returned, and the node a
runtime error points at, come from the tree or from expression references in the data -/
theorem interp_located (rt : Registry) (fuel : Nat) (d : Val) (a : Ast) (off : Nat) :
    ROk (FromInput a d) rt (VOk (FromInput a d)) (interp rt fuel d a off) :=
  (locStep_all (FromInput a d) rt fuel).interp d a off
    (fun _ h => List.mem_append.2 (.inl h)) (fun _ h => List.mem_append.2 (.inr h))

end JmesVerif
