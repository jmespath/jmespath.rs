import JmesVerif.Lemmas.LexPos
import JmesVerif.Lemmas.ParserSound
import JmesVerif.Lemmas.ParserBasic
/-!
Parser positions are truthful: every `offset` the parser stores in the tree, and the offset of every
parse error, is `0` (the initial `self.offset`) or the position of a token; a `Function` node's offset
is the position of a `(` token, a `Slice` node's offset the position of a `]` token.
(Lexer positions: `LexPos`.)
-/
namespace JmesVerif
open Parser


mutual
/-- all `offset` fields of a tree (not descending into literal values) -/
def Ast.offsets : Ast → List Nat
  | .comparison o _ l r => o :: (l.offsets ++ r.offsets)
  | .condition o p t => o :: (p.offsets ++ t.offsets)
  | .identity o => [o]
  | .expref o a => o :: a.offsets
  | .flatten o a => o :: a.offsets
  | .function o _ args => o :: Ast.offsetsL args
  | .field o _ => [o]
  | .index o _ => [o]
  | .literal o _ => [o]
  | .multiList o es => o :: Ast.offsetsL es
  | .multiHash o kvs => o :: Ast.offsetsK kvs
  | .not o a => o :: a.offsets
  | .projection o l r => o :: (l.offsets ++ r.offsets)
  | .objectValues o a => o :: a.offsets
  | .and o l r => o :: (l.offsets ++ r.offsets)
  | .or o l r => o :: (l.offsets ++ r.offsets)
  | .slice o _ _ _ => [o]
  | .subexpr o l r => o :: (l.offsets ++ r.offsets)
def Ast.offsetsL : List Ast → List Nat
  | [] => []
  | a :: as => a.offsets ++ Ast.offsetsL as
def Ast.offsetsK : List (String × Ast) → List Nat
  | [] => []
  | (_, a) :: r => a.offsets ++ Ast.offsetsK r
end

mutual
/-- offsets of the `Function` nodes of a tree -/
def Ast.callOffsets : Ast → List Nat
  | .comparison _ _ l r => l.callOffsets ++ r.callOffsets
  | .condition _ p t => p.callOffsets ++ t.callOffsets
  | .identity _ => []
  | .expref _ a => a.callOffsets
  | .flatten _ a => a.callOffsets
  | .function o _ args => o :: Ast.callOffsetsL args
  | .field _ _ => []
  | .index _ _ => []
  | .literal _ _ => []
  | .multiList _ es => Ast.callOffsetsL es
  | .multiHash _ kvs => Ast.callOffsetsK kvs
  | .not _ a => a.callOffsets
  | .projection _ l r => l.callOffsets ++ r.callOffsets
  | .objectValues _ a => a.callOffsets
  | .and _ l r => l.callOffsets ++ r.callOffsets
  | .or _ l r => l.callOffsets ++ r.callOffsets
  | .slice _ _ _ _ => []
  | .subexpr _ l r => l.callOffsets ++ r.callOffsets
def Ast.callOffsetsL : List Ast → List Nat
  | [] => []
  | a :: as => a.callOffsets ++ Ast.callOffsetsL as
def Ast.callOffsetsK : List (String × Ast) → List Nat
  | [] => []
  | (_, a) :: r => a.callOffsets ++ Ast.callOffsetsK r
end

mutual
/-- offsets of the `Slice` nodes of a tree -/
def Ast.sliceOffsets : Ast → List Nat
  | .comparison _ _ l r => l.sliceOffsets ++ r.sliceOffsets
  | .condition _ p t => p.sliceOffsets ++ t.sliceOffsets
  | .identity _ => []
  | .expref _ a => a.sliceOffsets
  | .flatten _ a => a.sliceOffsets
  | .function _ _ args => Ast.sliceOffsetsL args
  | .field _ _ => []
  | .index _ _ => []
  | .literal _ _ => []
  | .multiList _ es => Ast.sliceOffsetsL es
  | .multiHash _ kvs => Ast.sliceOffsetsK kvs
  | .not _ a => a.sliceOffsets
  | .projection _ l r => l.sliceOffsets ++ r.sliceOffsets
  | .objectValues _ a => a.sliceOffsets
  | .and _ l r => l.sliceOffsets ++ r.sliceOffsets
  | .or _ l r => l.sliceOffsets ++ r.sliceOffsets
  | .slice o _ _ _ => [o]
  | .subexpr _ l r => l.sliceOffsets ++ r.sliceOffsets
def Ast.sliceOffsetsL : List Ast → List Nat
  | [] => []
  | a :: as => a.sliceOffsets ++ Ast.sliceOffsetsL as
def Ast.sliceOffsetsK : List (String × Ast) → List Nat
  | [] => []
  | (_, a) :: r => a.sliceOffsets ++ Ast.sliceOffsetsK r
end

theorem mem_offsetsL (o : Nat) (as : List Ast) :
    o ∈ Ast.offsetsL as ↔ ∃ a ∈ as, o ∈ a.offsets := by
  induction as with
  | nil => simp [Ast.offsetsL]
  | cons a as ih => simp [Ast.offsetsL, ih]
theorem mem_callOffsetsL (o : Nat) (as : List Ast) :
    o ∈ Ast.callOffsetsL as ↔ ∃ a ∈ as, o ∈ a.callOffsets := by
  induction as with
  | nil => simp [Ast.callOffsetsL]
  | cons a as ih => simp [Ast.callOffsetsL, ih]
theorem mem_sliceOffsetsL (o : Nat) (as : List Ast) :
    o ∈ Ast.sliceOffsetsL as ↔ ∃ a ∈ as, o ∈ a.sliceOffsets := by
  induction as with
  | nil => simp [Ast.sliceOffsetsL]
  | cons a as ih => simp [Ast.sliceOffsetsL, ih]
theorem mem_offsetsK (o : Nat) (as : List (String × Ast)) :
    o ∈ Ast.offsetsK as ↔ ∃ a ∈ as, o ∈ a.2.offsets := by
  induction as with
  | nil => simp [Ast.offsetsK]
  | cons a as ih => obtain ⟨k, a⟩ := a; simp [Ast.offsetsK, ih]
theorem mem_callOffsetsK (o : Nat) (as : List (String × Ast)) :
    o ∈ Ast.callOffsetsK as ↔ ∃ a ∈ as, o ∈ a.2.callOffsets := by
  induction as with
  | nil => simp [Ast.callOffsetsK]
  | cons a as ih => obtain ⟨k, a⟩ := a; simp [Ast.callOffsetsK, ih]
theorem mem_sliceOffsetsK (o : Nat) (as : List (String × Ast)) :
    o ∈ Ast.sliceOffsetsK as ↔ ∃ a ∈ as, o ∈ a.2.sliceOffsets := by
  induction as with
  | nil => simp [Ast.sliceOffsetsK]
  | cons a as ih => obtain ⟨k, a⟩ := a; simp [Ast.sliceOffsetsK, ih]

namespace Pos
section
variable (P C S : Nat → Prop)

/-- every offset of the tree is allowed (`P`), every call offset satisfies `C`, every slice offset `S` -/
def Good (a : Ast) : Prop :=
  (∀ o ∈ a.offsets, P o) ∧ (∀ o ∈ a.callOffsets, C o) ∧ (∀ o ∈ a.sliceOffsets, S o)
def GoodL (as : List Ast) : Prop := ∀ a ∈ as, Good P C S a
def GoodK (as : List (String × Ast)) : Prop := ∀ a ∈ as, Good P C S a.2

theorem goodL_nil : GoodL P C S [] := by simp [GoodL]
theorem goodK_nil : GoodK P C S [] := by simp [GoodK]
theorem goodL_snoc (as : List Ast) (a : Ast) :
    GoodL P C S (as ++ [a]) ↔ GoodL P C S as ∧ Good P C S a := by
  simp [GoodL, or_imp, forall_and]
theorem goodK_snoc (as : List (String × Ast)) (k : String) (a : Ast) :
    GoodK P C S (as ++ [(k, a)]) ↔ GoodK P C S as ∧ Good P C S a := by
  simp [GoodK, or_imp, forall_and]

/-- `Good` of a node, read off its three lists of offsets -/
theorem good_node {a : Ast} {o : Nat} {os cs ss : List Nat} (h1 : a.offsets = o :: os)
    (h2 : a.callOffsets = cs) (h3 : a.sliceOffsets = ss) :
    Good P C S a ↔ P o ∧ (∀ x ∈ os, P x) ∧ (∀ x ∈ cs, C x) ∧ ∀ x ∈ ss, S x := by
  simp only [Good, h1, h2, h3, List.forall_mem_cons, and_assoc]

theorem good_leaf {a : Ast} {o : Nat} (h1 : a.offsets = [o]) (h2 : a.callOffsets = [])
    (h3 : a.sliceOffsets = []) : Good P C S a ↔ P o := by
  simp [good_node P C S h1 h2 h3]

theorem good_binary {a l r : Ast} {o : Nat} (h1 : a.offsets = o :: (l.offsets ++ r.offsets))
    (h2 : a.callOffsets = l.callOffsets ++ r.callOffsets)
    (h3 : a.sliceOffsets = l.sliceOffsets ++ r.sliceOffsets) :
    Good P C S a ↔ P o ∧ Good P C S l ∧ Good P C S r := by
  simp only [Good, h1, h2, h3, List.forall_mem_cons, List.forall_mem_append]
  exact ⟨fun ⟨⟨p, l1, r1⟩, ⟨l2, r2⟩, l3, r3⟩ => ⟨p, ⟨l1, l2, l3⟩, r1, r2, r3⟩,
    fun ⟨p, ⟨l1, l2, l3⟩, r1, r2, r3⟩ => ⟨⟨p, l1, r1⟩, ⟨l2, r2⟩, l3, r3⟩⟩

theorem goodL_iff (as : List Ast) : GoodL P C S as ↔
    (∀ o ∈ Ast.offsetsL as, P o) ∧ (∀ o ∈ Ast.callOffsetsL as, C o) ∧ ∀ o ∈ Ast.sliceOffsetsL as, S o := by
  simp only [GoodL, Good, mem_offsetsL, mem_callOffsetsL, mem_sliceOffsetsL]; grind

theorem goodK_iff (as : List (String × Ast)) : GoodK P C S as ↔
    (∀ o ∈ Ast.offsetsK as, P o) ∧ (∀ o ∈ Ast.callOffsetsK as, C o) ∧ ∀ o ∈ Ast.sliceOffsetsK as, S o := by
  simp only [GoodK, Good, mem_offsetsK, mem_callOffsetsK, mem_sliceOffsetsK, Prod.forall, Prod.exists]; grind

theorem good_identity (o) : Good P C S (.identity o) ↔ P o := good_leaf P C S rfl rfl rfl
theorem good_field (o s) : Good P C S (.field o s) ↔ P o := good_leaf P C S rfl rfl rfl
theorem good_index (o s) : Good P C S (.index o s) ↔ P o := good_leaf P C S rfl rfl rfl
theorem good_literal (o s) : Good P C S (.literal o s) ↔ P o := good_leaf P C S rfl rfl rfl
theorem good_slice (o a b c) : Good P C S (.slice o a b c) ↔ P o ∧ S o :=
  (good_node P C S (os := []) (cs := []) (ss := [o]) rfl rfl rfl).trans (by simp)
theorem good_expref (o a) : Good P C S (.expref o a) ↔ P o ∧ Good P C S a :=
  good_node P C S rfl rfl rfl
theorem good_flatten (o a) : Good P C S (.flatten o a) ↔ P o ∧ Good P C S a :=
  good_node P C S rfl rfl rfl
theorem good_not (o a) : Good P C S (.not o a) ↔ P o ∧ Good P C S a :=
  good_node P C S rfl rfl rfl
theorem good_objectValues (o a) : Good P C S (.objectValues o a) ↔ P o ∧ Good P C S a :=
  good_node P C S rfl rfl rfl
theorem good_comparison (o c l r) :
    Good P C S (.comparison o c l r) ↔ P o ∧ Good P C S l ∧ Good P C S r :=
  good_binary P C S rfl rfl rfl
theorem good_condition (o l r) :
    Good P C S (.condition o l r) ↔ P o ∧ Good P C S l ∧ Good P C S r :=
  good_binary P C S rfl rfl rfl
theorem good_projection (o l r) :
    Good P C S (.projection o l r) ↔ P o ∧ Good P C S l ∧ Good P C S r :=
  good_binary P C S rfl rfl rfl
theorem good_and (o l r) : Good P C S (.and o l r) ↔ P o ∧ Good P C S l ∧ Good P C S r :=
  good_binary P C S rfl rfl rfl
theorem good_or (o l r) : Good P C S (.or o l r) ↔ P o ∧ Good P C S l ∧ Good P C S r :=
  good_binary P C S rfl rfl rfl
theorem good_subexpr (o l r) : Good P C S (.subexpr o l r) ↔ P o ∧ Good P C S l ∧ Good P C S r :=
  good_binary P C S rfl rfl rfl
theorem good_function (o n args) :
    Good P C S (.function o n args) ↔ P o ∧ C o ∧ GoodL P C S args := by
  rw [goodL_iff]
  show (∀ x ∈ o :: Ast.offsetsL args, P x) ∧ (∀ x ∈ o :: Ast.callOffsetsL args, C x) ∧ _ ↔ _
  simp only [List.forall_mem_cons]
  exact ⟨fun ⟨⟨p, a⟩, ⟨c, b⟩, d⟩ => ⟨p, c, a, b, d⟩, fun ⟨p, c, a, b, d⟩ => ⟨⟨p, a⟩, ⟨c, b⟩, d⟩⟩
theorem good_multiList (o args) : Good P C S (.multiList o args) ↔ P o ∧ GoodL P C S args := by
  rw [goodL_iff]; exact good_node P C S rfl rfl rfl
theorem good_multiHash (o args) : Good P C S (.multiHash o args) ↔ P o ∧ GoodK P C S args := by
  rw [goodK_iff]; exact good_node P C S rfl rfl rfl

/-- the allowed sets contain everything the remaining tokens can contribute -/
def Closed : List PT → Prop
  | [] => True
  | (p, t) :: r => P p ∧ (t = .lparen → C p) ∧ (t = .rbracket → S p) ∧ Closed r

def ErrOk (e : PErr) : Prop := ∀ p, e = .at p → P p

/-- what a parser function may answer: a payload satisfying `G` (which may also look at the new
`self.offset`), remaining tokens still covered by the allowed sets, an allowed new offset; or an
error at an allowed position -/
def ResOk {α : Type} (G : α → Nat → Prop) (r : PRes α) : Prop :=
  match r with
  | .ok (x, ts', off') => G x off' ∧ Closed P C S ts' ∧ P off'
  | .error e => ErrOk P e

theorem peekPos_ok (ts : List PT) (off : Nat) (hc : Closed P C S ts) (ho : P off) :
    P (peekPos ts off) := by
  cases ts with
  | nil => exact ho
  | cons pt r => obtain ⟨p, t⟩ := pt; exact hc.1

grind_pattern peekPos_ok => Closed P C S ts, peekPos ts off

/-- `idxLoop` ends on the `]`: the offset it returns is the position of an `rbracket` token -/
theorem idxLoop_ok : ∀ (fuel : Nat) ts off a b c k, Closed P C S ts → P off →
    ResOk P C S (fun _ o => S o) (idxLoop fuel ts off a b c k) := by
  intro fuel
  induction fuel with
  | zero => intro ts off a b c k _ _; exact nofun
  | succ n ih =>
    intro ts off a b c k hc ho
    obtain _ | ⟨⟨p, t⟩, r⟩ := ts
    · exact fun _ h => by cases h; exact ho
    obtain ⟨hp, -, hs, hr⟩ := hc
    have he : ErrOk P (.at p) := fun _ h => by cases h; exact hp
    have he' : ErrOk P (.at (peekPos r p)) := fun _ h => by cases h; exact peekPos_ok P C S r p hr hp
    obtain ⟨v, rfl⟩ | rfl | rfl | ht := idxLoop_other t
    · rw [idxLoop_number]
      split
      case h_3 => exact he'
      all_goals exact ih _ _ _ _ _ _ hr hp
    · rw [idxLoop_colon]
      split
      · exact he
      split
      case h_4 => exact he'
      all_goals exact ih _ _ _ _ _ _ hr hp
    · rw [idxLoop_rbracket]
      split
      · split
        · exact ⟨hs rfl, hr, hp⟩
        · exact he
      · exact ⟨hs rfl, hr, hp⟩
    · rw [ht]; exact he



def ExprInv (n : Nat) : Prop :=
  ∀ rbp ts off, Closed P C S ts → P off →
    ResOk P C S (fun x _ => Good P C S x.2) (Parser.expr n rbp ts off)
def LoopInv (n : Nat) : Prop :=
  ∀ rbp h acc left ts off, Closed P C S ts → P off → Good P C S left →
    ResOk P C S (fun x _ => Good P C S x.2) (Parser.loop n rbp h acc left ts off)
def NudInv (n : Nat) : Prop :=
  ∀ ts off, Closed P C S ts → P off →
    ResOk P C S (fun x _ => Good P C S x.2) (Parser.nud n ts off)
def LedInv (n : Nat) : Prop :=
  ∀ left ts off, Closed P C S ts → P off → Good P C S left →
    ResOk P C S (fun x _ => Good P C S x.2) (Parser.led n left ts off)
def IndexInv (n : Nat) : Prop :=
  ∀ ts off, Closed P C S ts → P off →
    ResOk P C S (fun x _ => Good P C S x.2) (Parser.parseIndex n ts off)
def ProjRhsInv (n : Nat) : Prop :=
  ∀ k ts off, Closed P C S ts → P off →
    ResOk P C S (fun x _ => Good P C S x.2) (Parser.projRhs n k ts off)
def DotInv (n : Nat) : Prop :=
  ∀ k ts off, Closed P C S ts → P off →
    ResOk P C S (fun x _ => Good P C S x.2) (Parser.parseDot n k ts off)
def MultiListInv (n : Nat) : Prop :=
  ∀ ts off, Closed P C S ts → P off →
    ResOk P C S (fun x _ => Good P C S x.2) (Parser.multiList n ts off)
def ListInv (n : Nat) : Prop :=
  ∀ paren ts off es as, Closed P C S ts → P off → GoodL P C S as →
    ResOk P C S (fun x _ => GoodL P C S x.2) (Parser.parseList n paren ts off es as)
def KvpsInv (n : Nat) : Prop :=
  ∀ ts off ks aks, Closed P C S ts → P off → GoodK P C S aks →
    ResOk P C S (fun x _ => GoodK P C S x.2) (Parser.kvps n ts off ks aks)
def FilterInv (n : Nat) : Prop :=
  ∀ lhs ts off, Closed P C S ts → P off → Good P C S lhs →
    ResOk P C S (fun x _ => Good P C S x.2.2) (Parser.parseFilter n lhs ts off)
def FlattenInv (n : Nat) : Prop :=
  ∀ lhs ts off, Closed P C S ts → P off → Good P C S lhs →
    ResOk P C S (fun x _ => Good P C S x.2) (Parser.parseFlatten n lhs ts off)
def WvInv (n : Nat) : Prop :=
  ∀ lhs ts off, Closed P C S ts → P off → Good P C S lhs →
    ResOk P C S (fun x _ => Good P C S x.2) (Parser.wildcardValues n lhs ts off)
def WiInv (n : Nat) : Prop :=
  ∀ lhs ts off, Closed P C S ts → P off → Good P C S lhs →
    ResOk P C S (fun x _ => Good P C S x.2) (Parser.wildcardIndex n lhs ts off)

structure PosIH (n : Nat) : Prop where
  expr : ExprInv P C S n
  loop : LoopInv P C S n
  nud : NudInv P C S n
  led : LedInv P C S n
  index : IndexInv P C S n
  projRhs : ProjRhsInv P C S n
  dot : DotInv P C S n
  multiList : MultiListInv P C S n
  list : ListInv P C S n
  kvps : KvpsInv P C S n
  filter : FilterInv P C S n
  flatten : FlattenInv P C S n
  wv : WvInv P C S n
  wi : WiInv P C S n

end

variable {P C S : Nat → Prop} {n : Nat}

theorem ResOk.ok {α : Type} {G : α → Nat → Prop} {r : PRes α} {x ts off}
    (h : ResOk P C S G r) (he : r = .ok (x, ts, off)) : G x off ∧ Closed P C S ts ∧ P off := by
  subst he; exact h

theorem ResOk.error {α : Type} {G : α → Nat → Prop} {r : PRes α} {e}
    (h : ResOk P C S G r) (he : r = .error e) : ErrOk P e := by
  subst he; exact h

theorem errOk_at {p : Nat} (h : P p) : ErrOk P (.at p) := fun _ e => by cases e; exact h

/-! ### one step per function

After `split` on `match sub-call with | .error e => .error e | .ok (x, ts, off) => …` the last
hypothesis is the sub-call's answer; `ResOk.error` resp. `ResOk.ok` read off what the induction
hypothesis says about it. -/

theorem PosIH.succ (ih : PosIH P C S n) : PosIH P C S (n + 1) := by
  constructor
  · intro rbp ts off hc ho
    unfold Parser.expr
    have := ih.nud ts off hc ho
    split
    · exact this.error ‹_›
    · obtain ⟨g, c, o⟩ := this.ok ‹_›
      exact ih.loop _ _ _ _ _ _ c o g
  · intro rbp h acc left ts off hc ho hl
    unfold Parser.loop
    split
    · split
      · obtain ⟨hp, hC, _, hr⟩ := hc
        split
        · have := ih.list true _ _ [] [] hr hp (goodL_nil P C S)
          split
          · exact this.error ‹_›
          · obtain ⟨g, c, o⟩ := this.ok ‹_›
            have gl name := (good_function P C S _ name _).2 ⟨hp, hC rfl, g⟩
            split <;> exact ih.loop _ _ _ _ _ _ c o (gl _)
        · exact errOk_at (peekPos_ok P C S _ _ hr hp)
      · have := ih.led left ts off hc ho hl
        split
        · exact this.error ‹_›
        · obtain ⟨g, c, o⟩ := this.ok ‹_›
          exact ih.loop _ _ _ _ _ _ c o g
    · exact ⟨hl, hc, ho⟩
  · intro ts off hc ho
    unfold Parser.nud
    split
    · exact errOk_at ho
    · obtain ⟨hp, _, _, hr⟩ := hc
      have gi := (good_identity P C S _).2 hp
      split
      · exact ⟨gi, hr, hp⟩
      · exact ⟨(good_field ..).2 hp, hr, hp⟩
      · split
        · exact errOk_at (peekPos_ok P C S _ _ hr hp)
        · exact ⟨(good_field ..).2 hp, hr, hp⟩
      · have := ih.wv _ _ _ hr hp gi
        split
        · exact this.error ‹_›
        · exact this.ok ‹_›
      · exact ⟨(good_literal ..).2 hp, hr, hp⟩
      · split
        iterate 2
          · have := ih.index _ _ hr hp
            split
            · exact this.error ‹_›
            · exact this.ok ‹_›
            · exact this.ok ‹_›
        · have := ih.wi _ _ _ hr.2.2.2 hr.1 gi
          split
          · exact this.error ‹_›
          · exact this.ok ‹_›
        · have := ih.multiList _ _ hr hp
          split
          · exact this.error ‹_›
          · exact this.ok ‹_›
      · have := ih.flatten _ _ _ hr hp gi
        split
        · exact this.error ‹_›
        · exact this.ok ‹_›
      · have := ih.kvps _ _ [] [] hr hp (goodK_nil P C S)
        split
        · exact this.error ‹_›
        · exact (this.ok ‹_›).imp_left fun g => (good_multiHash ..).2 ⟨hp, g⟩
      · have := ih.expr 0 _ _ hr hp
        split
        · exact this.error ‹_›
        · exact (this.ok ‹_›).imp_left fun g => (good_expref ..).2 ⟨hp, g⟩
      · have := ih.expr 45 _ _ hr hp
        split
        · exact this.error ‹_›
        · exact (this.ok ‹_›).imp_left fun g => (good_not ..).2 ⟨hp, g⟩
      · have := ih.filter _ _ _ hr hp gi
        split
        · exact this.error ‹_›
        · exact this.ok ‹_›
      · have := ih.expr 0 _ _ hr hp
        split
        · exact this.error ‹_›
        · obtain ⟨g, c, o⟩ := this.ok ‹_›
          split
          · exact ⟨g, c.2.2.2, c.1⟩
          · exact errOk_at c.1
          · exact errOk_at o
      · exact errOk_at hp
  · intro left ts off hc ho hl
    unfold Parser.led
    split
    · exact errOk_at ho
    · obtain ⟨hp, _, _, hr⟩ := hc
      split
      · split
        · have := ih.wv left _ _ hr.2.2.2 hr.1 hl
          split
          · exact this.error ‹_›
          · exact this.ok ‹_›
        · have := ih.dot 40 _ _ hr hp
          split
          · exact this.error ‹_›
          · exact (this.ok ‹_›).imp_left fun g => (good_subexpr ..).2 ⟨hp, hl, g⟩
      · split
        iterate 2
          · have := ih.index _ _ hr hp
            split
            · exact this.error ‹_›
            · exact (this.ok ‹_›).imp_left fun g => (good_subexpr ..).2 ⟨hp, hl, g⟩
            · exact (this.ok ‹_›).imp_left fun g => (good_subexpr ..).2 ⟨hp, hl, g⟩
        · have := ih.wi left _ _ hr.2.2.2 hr.1 hl
          split
          · exact this.error ‹_›
          · exact this.ok ‹_›
        · exact errOk_at (peekPos_ok P C S _ _ hr hp)
      · have := ih.expr 2 _ _ hr hp
        split
        · exact this.error ‹_›
        · exact (this.ok ‹_›).imp_left fun g => (good_or ..).2 ⟨hp, hl, g⟩
      · have := ih.expr 3 _ _ hr hp
        split
        · exact this.error ‹_›
        · exact (this.ok ‹_›).imp_left fun g => (good_and ..).2 ⟨hp, hl, g⟩
      · have := ih.expr 1 _ _ hr hp
        split
        · exact this.error ‹_›
        · exact (this.ok ‹_›).imp_left fun g => (good_subexpr ..).2 ⟨hp, hl, g⟩
      · have := ih.flatten left _ _ hr hp hl
        split
        · exact this.error ‹_›
        · exact this.ok ‹_›
      · have := ih.filter left _ _ hr hp hl
        split
        · exact this.error ‹_›
        · exact this.ok ‹_›
      · split
        · have := ih.expr 5 _ _ hr hp
          split
          · exact this.error ‹_›
          · obtain ⟨g, c, o⟩ := this.ok ‹_›
            exact ⟨(good_comparison ..).2 ⟨o, hl, g⟩, c, o⟩
        · exact errOk_at hp
  · intro ts off hc ho
    unfold Parser.parseIndex
    have := idxLoop_ok P C S 8 ts off none none none 0 hc ho
    split
    · exact this.error ‹_›
    · obtain ⟨_, c, o⟩ := this.ok ‹_›
      exact ⟨(good_index ..).2 o, c, o⟩
    · obtain ⟨s, c, o⟩ := this.ok ‹_›
      have := ih.projRhs 20 _ _ c o
      simp only
      split
      · exact this.error ‹_›
      · exact (this.ok ‹_›).imp_left fun g =>
          (good_projection ..).2 ⟨o, (good_slice ..).2 ⟨o, s⟩, g⟩
  · intro k ts off hc ho
    unfold Parser.projRhs
    split
    · have := ih.dot k _ _ hc.2.2.2 hc.1
      split
      · exact this.error ‹_›
      · exact this.ok ‹_›
    iterate 2
      · have := ih.expr k _ off hc ho
        split
        · exact this.error ‹_›
        · exact this.ok ‹_›
    · split
      · exact ⟨(good_identity ..).2 ho, hc, ho⟩
      · exact errOk_at (peekPos_ok P C S _ _ hc ho)
  · intro k ts off hc ho
    unfold Parser.parseDot
    have he := ih.expr k ts off hc ho
    split
    · have := ih.multiList _ _ hc.2.2.2 hc.1
      split
      · exact this.error ‹_›
      · exact this.ok ‹_›
    iterate 5
      · split
        · exact he.error ‹_›
        · exact he.ok ‹_›
    · exact errOk_at (peekPos_ok P C S _ _ hc ho)
  · intro ts off hc ho
    unfold Parser.multiList
    have := ih.list false ts off [] [] hc ho (goodL_nil P C S)
    split
    · exact this.error ‹_›
    · obtain ⟨g, c, o⟩ := this.ok ‹_›
      split
      · exact errOk_at o
      · exact ⟨(good_multiList ..).2 ⟨ho, g⟩, c, o⟩
  · intro paren ts off es as hc ho hl
    unfold Parser.parseList
    split
    · split
      · exact ⟨hl, hc.2.2.2, hc.1⟩
      · have := ih.expr 0 _ off hc ho
        split
        · exact this.error ‹_›
        · obtain ⟨g, c, o⟩ := this.ok ‹_›
          have gl := (goodL_snoc ..).2 ⟨hl, g⟩
          split
          · split
            · exact errOk_at (peekPos_ok P C S _ _ c.2.2.2 c.1)
            · exact ih.list _ _ _ _ _ c.2.2.2 c.1 gl
          · split
            · exact ⟨gl, c.2.2.2, c.1⟩
            · exact errOk_at c.1
          · exact errOk_at o
    · exact errOk_at ho
  · intro ts off ks aks hc ho hl
    unfold Parser.kvps
    simp only
    split
    · split
      · exact errOk_at hc.1
      · exact errOk_at ho
    · rename_i q s p r hkey
      have ⟨hp, hr⟩ : P p ∧ Closed P C S r := by
        split at hkey <;> cases hkey <;> exact ⟨hc.1, hc.2.2.2⟩
      split
      · have := ih.expr 0 _ _ hr.2.2.2 hr.1
        split
        · exact this.error ‹_›
        · obtain ⟨g, c, o⟩ := this.ok ‹_›
          have gk := (goodK_snoc P C S aks s _).2 ⟨hl, g⟩
          split
          · exact ⟨gk, c.2.2.2, c.1⟩
          · exact ih.kvps _ _ _ _ c.2.2.2 c.1 gk
          · exact errOk_at c.1
          · exact errOk_at o
      · exact errOk_at (peekPos_ok P C S _ _ hr hp)
  · intro lhs ts off hc ho hl
    unfold Parser.parseFilter
    have := ih.expr 0 ts off hc ho
    split
    · exact this.error ‹_›
    · obtain ⟨g, c, o⟩ := this.ok ‹_›
      split
      · have := ih.projRhs 21 _ _ c.2.2.2 c.1
        split
        · exact this.error ‹_›
        · obtain ⟨g', c', o'⟩ := this.ok ‹_›
          exact ⟨(good_projection ..).2 ⟨o', hl, (good_condition ..).2 ⟨o', g, g'⟩⟩, c', o'⟩
      · exact errOk_at c.1
      · exact errOk_at o
  · intro lhs ts off hc ho hl
    unfold Parser.parseFlatten
    have := ih.projRhs 9 ts off hc ho
    split
    · exact this.error ‹_›
    · obtain ⟨g, c, o⟩ := this.ok ‹_›
      exact ⟨(good_projection ..).2 ⟨o, (good_flatten ..).2 ⟨o, hl⟩, g⟩, c, o⟩
  · intro lhs ts off hc ho hl
    unfold Parser.wildcardValues
    have := ih.projRhs 20 ts off hc ho
    split
    · exact this.error ‹_›
    · obtain ⟨g, c, o⟩ := this.ok ‹_›
      exact ⟨(good_projection ..).2 ⟨o, (good_objectValues ..).2 ⟨o, hl⟩, g⟩, c, o⟩
  · intro lhs ts off hc ho hl
    unfold Parser.wildcardIndex
    split
    · have := ih.projRhs 20 _ _ hc.2.2.2 hc.1
      split
      · exact this.error ‹_›
      · obtain ⟨g, c, o⟩ := this.ok ‹_›
        exact ⟨(good_projection ..).2 ⟨o, hl, g⟩, c, o⟩
    · exact errOk_at hc.1
    · exact errOk_at ho

theorem posIH_all (P C S : Nat → Prop) : ∀ n, PosIH P C S n
  | 0 => by constructor <;> intro <;> intros <;> simp [ResOk, ErrOk]
  | n + 1 => (posIH_all P C S n).succ



theorem closed_of_forall (P C S : Nat → Prop) (l : List PT) (hP : ∀ pt ∈ l, P pt.1)
    (hC : ∀ p, (p, Tok.lparen) ∈ l → C p) (hS : ∀ p, (p, Tok.rbracket) ∈ l → S p) :
    Closed P C S l := by
  induction l with
  | nil => trivial
  | cons pt r ih =>
    obtain ⟨p, t⟩ := pt
    refine ⟨hP (p, t) List.mem_cons_self, ?_, ?_, ih ?_ ?_ ?_⟩
    · rintro rfl; exact hC _ List.mem_cons_self
    · rintro rfl; exact hS _ List.mem_cons_self
    · intro pt h; exact hP _ (List.mem_cons_of_mem _ h)
    · intro p h; exact hC _ (List.mem_cons_of_mem _ h)
    · intro p h; exact hS _ (List.mem_cons_of_mem _ h)

theorem closed_mem (P C S : Nat → Prop) (l : List PT) (h : Closed P C S l) :
    ∀ pt ∈ l, P pt.1 := by
  induction l with
  | nil => simp
  | cons pt r ih =>
    obtain ⟨p, t⟩ := pt
    intro pt' h'
    rcases List.mem_cons.mp h' with rfl | h'
    · exact h.1
    · exact ih h.2.2.2 _ h'

/-- the allowed sets relative to the input of a call: offsets are the incoming `self.offset` or
the position of one of the tokens, call offsets the position of a `(`, slice offsets of a `]` -/
theorem closed_self (ts : List PT) (off : Nat) :
    Closed (fun o => o = off ∨ o ∈ ts.map Prod.fst) (fun o => (o, Tok.lparen) ∈ ts)
      (fun o => (o, Tok.rbracket) ∈ ts) ts :=
  closed_of_forall _ _ _ ts (fun _ h => Or.inr (List.mem_map_of_mem h)) (fun _ h => h) (fun _ h => h)

/-- `expr`, relative to its own input: every offset in the tree it returns is the incoming offset
or the position of one of its tokens; so are the new `self.offset` and the positions of the
remaining tokens; call offsets are positions of `(` tokens, slice offsets of `]` tokens -/
theorem expr_offsets (fuel rbp : Nat) (ts : List PT) (off : Nat) (e : Expr) (a : Ast)
    (ts' : List PT) (off' : Nat) (h : Parser.expr fuel rbp ts off = .ok ((e, a), ts', off')) :
    (∀ o ∈ a.offsets, o = off ∨ o ∈ ts.map Prod.fst) ∧
    (∀ o ∈ a.callOffsets, (o, Tok.lparen) ∈ ts) ∧
    (∀ o ∈ a.sliceOffsets, (o, Tok.rbracket) ∈ ts) ∧
    (off' = off ∨ off' ∈ ts.map Prod.fst) ∧
    (∀ pt ∈ ts', pt.1 = off ∨ pt.1 ∈ ts.map Prod.fst) := by
  have := (posIH_all _ _ _ fuel).expr rbp ts off (closed_self ts off) (Or.inl rfl)
  rw [h] at this
  obtain ⟨⟨h1, h2, h3⟩, h4, h5⟩ := this
  exact ⟨h1, h2, h3, h5, closed_mem _ _ _ _ h4⟩

theorem expr_error_offset (fuel rbp : Nat) (ts : List PT) (off p : Nat)
    (h : Parser.expr fuel rbp ts off = .error (.at p)) : p = off ∨ p ∈ ts.map Prod.fst := by
  have := (posIH_all _ _ _ fuel).expr rbp ts off (closed_self ts off) (Or.inl rfl)
  rw [h] at this
  exact this p rfl

end Pos

/-- every offset in the tree is `0` (the initial `self.offset`) or a token position; the offset
of a `Function` node is the position of a `(` token, that of a `Slice` node of a `]` token -/
theorem parse_offsets (ts : List PT) (e : Expr) (a : Ast) (h : parseTokens ts = .ok (e, a)) :
    (∀ o ∈ a.offsets, o = 0 ∨ o ∈ ts.map Prod.fst) ∧
    (∀ o ∈ a.callOffsets, (o, Tok.lparen) ∈ ts) ∧
    (∀ o ∈ a.sliceOffsets, (o, Tok.rbracket) ∈ ts) := by
  unfold parseTokens at h
  split at h
  · simp at h
  · rename_i e' a' rest off' he
    have := Pos.expr_offsets _ _ _ _ _ _ _ _ he
    split at h
    · simp at h; obtain ⟨_, rfl⟩ := h; exact ⟨this.1, this.2.1, this.2.2.1⟩
    · simp at h; obtain ⟨_, rfl⟩ := h; exact ⟨this.1, this.2.1, this.2.2.1⟩
    · simp at h

/-- the offset of a parse error is `0` or a token position -/
theorem parse_error_offset (ts : List PT) (p : Nat) (h : parseTokens ts = .error (.at p)) :
    p = 0 ∨ p ∈ ts.map Prod.fst := by
  unfold parseTokens at h
  split at h
  · rename_i e' he
    simp at h; subst h
    exact Pos.expr_error_offset _ _ _ _ _ he
  · rename_i e' a' rest off' he
    have := (Pos.expr_offsets _ _ _ _ _ _ _ _ he).2.2.2.2
    split at h
    · simp at h
    · simp at h
    · simp at h; subst h
      exact this (_, _) List.mem_cons_self

#print axioms parse_offsets
#print axioms parse_error_offset

end JmesVerif
