import JmesVerif.Lemmas.Fuel
import JmesVerif.Model.JsonText
import JmesVerif.Lemmas.InsertKV
import JmesVerif.Model.JsonPrint
import JmesVerif.Lemmas.JsonRoundTripAux
/-!
# JSON printer / parser round trip

`JsonText.parse (JsonPrint.compact v).toList = some v` (and the same for `JsonPrint.pretty 0 v`) for every
value `v` that `serde_json` can print and read back: integers in the u64 / negative-i64 ranges, objects with
strictly increasing keys, nesting below the recursion limit, no expression references, and doubles for which
the float printer/parser pair round-trips (`FloatRoundTrips`, the only hypothesis; it concerns floats only).
-/
namespace JmesVerif
open JsonText JsonPrint

/-- the number is one `serde_json::Number` can hold *and print so that it parses back*: u64 range, negative
i64 range, or a finite double for which the float printer/parser pair round-trips (`floatOk`) -/
def Num.Printable (floatOk : F64 → Prop) : Num → Prop
  | .pos n => n < 2 ^ 64
  | .neg i => -(2 ^ 63 : Int) ≤ i ∧ i < 0
  | .flt f => floatOk f

namespace JsonRT
mutual
/-- nesting depth: scalars 0, a container one more than its deepest child -/
def depth : Val → Nat
  | .arr xs => depthVals xs + 1
  | .obj kvs => depthKvs kvs + 1
  | _ => 0
def depthVals : List Val → Nat
  | [] => 0
  | v :: vs => max (depth v) (depthVals vs)
def depthKvs : List (String × Val) → Nat
  | [] => 0
  | (_, v) :: r => max (depth v) (depthKvs r)
end

mutual
/-- hereditarily printable numbers, strictly increasing keys, no exprefs -/
def Shape (floatOk : F64 → Prop) : Val → Prop
  | .null => True
  | .bool _ => True
  | .str _ => True
  | .num n => n.Printable floatOk
  | .arr xs => ShapeVals floatOk xs
  | .obj kvs => ShapeKvs floatOk kvs ∧ kvs.Pairwise (fun a b => a.1 < b.1)
  | .expref _ => False
def ShapeVals (floatOk : F64 → Prop) : List Val → Prop
  | [] => True
  | v :: vs => Shape floatOk v ∧ ShapeVals floatOk vs
def ShapeKvs (floatOk : F64 → Prop) : List (String × Val) → Prop
  | [] => True
  | (_, v) :: r => Shape floatOk v ∧ ShapeKvs floatOk r
end
end JsonRT

/-- hereditarily: printable numbers, objects with strictly increasing keys (what `BTreeMap` iteration
produces; needed because parsing re-inserts members with `insertKV`), no exprefs (`JsonRT.Shape`); nesting
depth < 128 (serde_json's recursion limit; arrays/objects add 1, so at most 127 nested containers) -/
def Val.Printable (floatOk : F64 → Prop) (v : Val) : Prop :=
  JsonRT.Shape floatOk v ∧ JsonRT.depth v < 128

/-- what we assume about doubles: the text `floatText f`, followed by anything that cannot continue a JSON
number, is read by `parseValue` (one unit of fuel is all a number needs) back as `f` -/
def FloatRoundTrips (f : F64) : Prop :=
  ∀ rest : List Char,
    (∀ c, rest.head? = some c → ¬ JsonText.isDigit c ∧ c ≠ '.' ∧ c ≠ 'e' ∧ c ≠ 'E' ∧ c ≠ '+' ∧ c ≠ '-') →
    JsonText.parseValue 1 128 ((JsonPrint.floatText f).toList ++ rest) = some (.num (.flt f), rest)

namespace JsonRT

mutual
theorem Shape.mono {p q : F64 → Prop} (h : ∀ f, p f → q f) : (v : Val) → Shape p v → Shape q v
  | .null, _ => trivial
  | .bool _, _ => trivial
  | .str _, _ => trivial
  | .num (.pos _), hs => hs
  | .num (.neg _), hs => hs
  | .num (.flt f), hs => h f hs
  | .arr xs, hs => ShapeVals.mono h xs hs
  | .obj kvs, hs => ⟨ShapeKvs.mono h kvs hs.1, hs.2⟩
  | .expref _, hs => hs
theorem ShapeVals.mono {p q : F64 → Prop} (h : ∀ f, p f → q f) : (xs : List Val) → ShapeVals p xs → ShapeVals q xs
  | [], _ => trivial
  | v :: vs, hs => ⟨Shape.mono h v hs.1, ShapeVals.mono h vs hs.2⟩
theorem ShapeKvs.mono {p q : F64 → Prop} (h : ∀ f, p f → q f) :
    (kvs : List (String × Val)) → ShapeKvs p kvs → ShapeKvs q kvs
  | [], _ => trivial
  | (_, v) :: r, hs => ⟨Shape.mono h v hs.1, ShapeKvs.mono h r hs.2⟩
end

theorem numEnd_nil : NumEnd [] := nofun

theorem numEnd_cons {c : Char}
    (h : ¬ JsonText.isDigit c = true ∧ c ≠ '.' ∧ c ≠ 'e' ∧ c ≠ 'E' ∧ c ≠ '+' ∧ c ≠ '-') (r : List Char) :
    NumEnd (c :: r) :=
  fun _ hc => Option.some.inj hc ▸ h


/-- `depth v = 0` says that `v` is no container -/
theorem parseValue_scalar {v : Val} (hs : Shape FloatRoundTrips v) (h0 : depth v = 0) (f dp : Nat)
    {rest : List Char} (hr : NumEnd rest) :
    parseValue (f + 1) dp ((compact v).toList ++ rest) = some (v, rest) := by
  cases v with
  | null => rw [compact, parseValue]; rfl
  | bool b => cases b <;> (rw [compact, parseValue]; rfl)
  | num n =>
    rw [compact]
    cases n with
    | pos n => exact parseValue_pos f dp n hs rest hr
    | neg i => exact parseValue_neg f dp i hs.1 hs.2 rest hr
    | flt x => exact parseValue_num_lift (hs rest hr) f dp
  | str s =>
    refine parseValue_str f dp _ rest s ?_
    rw [compact, toList_quote, List.cons_append, skipWs_cons_of_not_ws (c := '"') rfl]; simp
  | arr xs => cases h0
  | obj kvs => cases h0
  | expref _ => exact hs.elim

theorem pretty_scalar (lvl : Nat) {v : Val} (h0 : depth v = 0) : pretty lvl v = compact v := by
  cases v with
  | bool b => cases b <;> simp [pretty, compact]
  | arr xs => cases h0
  | obj kvs => cases h0
  | _ => simp [pretty, compact]

/-- with keys in increasing order, `parseMembers` appends each member it reads -/
theorem insertKV_last {k : String} {v : Val} {acc kvs : List (String × Val)}
    (hp : (acc ++ (k, v) :: kvs).Pairwise (fun a b => a.1 < b.1)) : insertKV k v acc = acc ++ [(k, v)] :=
  insertKV_eq_append k v acc fun a ha => (List.pairwise_append.1 hp).2.2 a ha (k, v) (by simp)

theorem toList_arr (xs : List Val) (rest : List Char) :
    (compact (.arr xs)).toList ++ rest = '[' :: ((compactElems xs).toList ++ ']' :: rest) := by
  simp [compact]
theorem toList_obj (kvs : List (String × Val)) (rest : List Char) :
    (compact (.obj kvs)).toList ++ rest = '{' :: ((compactMembers kvs).toList ++ '}' :: rest) := by
  simp [compact]
theorem toList_elems_cons (v w : Val) (vs : List Val) :
    (compactElems (v :: w :: vs)).toList = (compact v).toList ++ ',' :: (compactElems (w :: vs)).toList := by
  simp [compactElems]
theorem toList_members_cons (k : String) (v : Val) (kv : String × Val) (r : List (String × Val)) :
    (compactMembers ((k, v) :: kv :: r)).toList =
      '"' :: (k.toList.flatMap escapeChar ++ '"' :: ':' :: ((compact v).toList ++ ',' :: (compactMembers (kv :: r)).toList)) := by
  simp [compactMembers, toList_quote]
theorem toList_members_one (k : String) (v : Val) :
    (compactMembers [(k, v)]).toList = '"' :: (k.toList.flatMap escapeChar ++ '"' :: ':' :: (compact v).toList) := by
  simp [compactMembers, toList_quote]

/-- what the length of a text is, once it is written with `::` and `++`; rewrites every hypothesis (`at *`), so a
`congrArg List.length` fact left in the context is used here -/
macro "length_arith" : tactic =>
  `(tactic| (simp only [List.length_cons, List.length_append, List.length_nil] at *; omega))

mutual
/-- `parseValue` reads the compact text of `v` back and leaves what follows it. -/
theorem pv : (v : Val) → Shape FloatRoundTrips v → ∀ (fuel dp : Nat) (rest : List Char), NumEnd rest →
    depth v < dp → (compact v).toList.length + 1 ≤ fuel →
    parseValue fuel dp ((compact v).toList ++ rest) = some (v, rest) := by
  intro v hs fuel dp rest hr hd hf
  obtain ⟨f, rfl, _⟩ := fuel_succ hf
  cases v with
  | arr xs =>
    have ih := pe xs hs
    rw [depth] at hd
    rw [toList_arr]
    cases xs with
    | nil => exact parseValue_arr_nil f dp (by omega) _ _ (skipWs_cons_of_not_ws rfl _)
    | cons x xs =>
      have hl := congrArg List.length (toList_arr (x :: xs) [])
      exact parseValue_arr_of_elems (by omega) (ih nofun f (dp - 1) rest [] (by omega) (by length_arith))
  | obj kvs =>
    have ih := pm kvs hs.1
    rw [depth] at hd
    rw [toList_obj]
    cases kvs with
    | nil => exact parseValue_obj_nil f dp (by omega) _ _ (skipWs_cons_of_not_ws rfl _)
    | cons x xs =>
      have hl := congrArg List.length (toList_obj (x :: xs) [])
      exact parseValue_obj_of_members (by omega)
        (ih nofun f (dp - 1) rest [] hs.2 (by omega) (by length_arith))
  | _ => exact parseValue_scalar hs rfl f dp hr
/-- `parseElems` reads the compact elements of a non-empty array, through the closing `]`, onto `acc`. -/
theorem pe : (xs : List Val) → ShapeVals FloatRoundTrips xs → xs ≠ [] → ∀ (fuel dp : Nat) (rest : List Char) (acc : List Val),
    depthVals xs < dp → (compactElems xs).toList.length + 2 ≤ fuel →
    parseElems fuel dp ((compactElems xs).toList ++ ']' :: rest) acc = some (acc.reverse ++ xs, rest) := by
  intro xs hs hne fuel dp rest acc hd hf
  obtain ⟨f, rfl, _⟩ := fuel_succ hf
  cases xs with
  | nil => exact absurd rfl hne
  | cons v vs =>
    have ihv := pv v hs.1 f dp
    have ihs := pe vs hs.2
    rw [depthVals] at hd
    cases vs with
    | nil =>
      rw [compactElems] at hf ⊢
      rw [parseElems_last (ihv _ (numEnd_cons (by decide) rest) (by omega) (by omega)) (skipWs_cons_of_not_ws rfl _)]
      simp
    | cons w vs =>
      rw [toList_elems_cons] at hf ⊢
      rw [List.append_assoc, List.cons_append,
        parseElems_more (ihv _ (numEnd_cons (by decide) _) (by omega) (by length_arith)) (skipWs_cons_of_not_ws rfl _),
        ihs nofun f dp rest (v :: acc) (by omega) (by length_arith)]
      simp
/-- `parseMembers` reads the compact members of a non-empty object, through the closing `}`; `acc` holds the smaller keys. -/
theorem pm : (kvs : List (String × Val)) → ShapeKvs FloatRoundTrips kvs → kvs ≠ [] →
    ∀ (fuel dp : Nat) (rest : List Char) (acc : List (String × Val)),
    (acc ++ kvs).Pairwise (fun a b => a.1 < b.1) →
    depthKvs kvs < dp → (compactMembers kvs).toList.length + 2 ≤ fuel →
    parseMembers fuel dp ((compactMembers kvs).toList ++ '}' :: rest) acc = some (acc ++ kvs, rest) := by
  intro kvs hs hne fuel dp rest acc hp hd hf
  obtain ⟨f, rfl, _⟩ := fuel_succ hf
  cases kvs with
  | nil => exact absurd rfl hne
  | cons kv r =>
    obtain ⟨k, v⟩ := kv
    have ihv := pv v hs.1 f dp
    have ihs := pm r hs.2
    rw [depthKvs] at hd
    cases r with
    | nil =>
      rw [toList_members_one] at hf ⊢
      simp only [List.cons_append, List.append_assoc]
      rw [parseMembers_last (skipWs_cons_of_not_ws rfl _) (skipWs_cons_of_not_ws rfl _)
        (ihv _ (numEnd_cons (by decide) rest) (by omega) (by length_arith)) (skipWs_cons_of_not_ws rfl _), insertKV_last hp]
    | cons kv r =>
      rw [toList_members_cons] at hf ⊢
      simp only [List.cons_append, List.append_assoc]
      rw [parseMembers_more (skipWs_cons_of_not_ws rfl _) (skipWs_cons_of_not_ws rfl _)
        (ihv _ (numEnd_cons (by decide) _) (by omega) (by length_arith)) (skipWs_cons_of_not_ws rfl _), insertKV_last hp,
        ihs nofun f dp rest _ (by simpa using hp) (by omega) (by length_arith)]
      simp
end

/-! ### the pretty printer: same induction, `skipWs` absorbs the layout -/

/-- a text made of whitespace only -/
def Blank (ws : List Char) : Prop := ∀ c ∈ ws, isWs c = true

theorem skipWs_blank {ws : List Char} (h : Blank ws) (cs : List Char) : skipWs (ws ++ cs) = skipWs cs := by
  induction ws with
  | nil => rfl
  | cons c ws ih =>
    rw [List.cons_append, skipWs, if_pos (h c (by simp))]
    exact ih fun c hc => h c (by simp [hc])

theorem parseValue_blank {ws : List Char} (h : Blank ws) (fuel dp : Nat) (cs : List Char) :
    parseValue fuel dp (ws ++ cs) = parseValue fuel dp cs := by
  rw [← parseValue_skipWs, skipWs_blank h, parseValue_skipWs]

theorem parseElems_blank {ws : List Char} (h : Blank ws) (fuel dp : Nat) (cs : List Char) (acc) :
    parseElems fuel dp (ws ++ cs) acc = parseElems fuel dp cs acc := by
  rw [← parseElems_skipWs, skipWs_blank h, parseElems_skipWs]

theorem parseMembers_blank {ws : List Char} (h : Blank ws) (fuel dp : Nat) (cs : List Char) (acc) :
    parseMembers fuel dp (ws ++ cs) acc = parseMembers fuel dp cs acc := by
  rw [← parseMembers_skipWs, skipWs_blank h, parseMembers_skipWs]

theorem skipWs_blank_punct {ws : List Char} (h : Blank ws) {c : Char} (hc : isWs c = false) (cs : List Char) :
    skipWs (ws ++ c :: cs) = c :: cs := by
  rw [skipWs_blank h, skipWs_cons_of_not_ws hc]

theorem blank_indent (lvl : Nat) : Blank (indent lvl).toList := by
  intro c hc
  simp [indent] at hc
  rw [hc.2]; rfl

theorem blank_one {c : Char} (hc : isWs c = true) : Blank [c] := by
  intro d hd
  rw [List.mem_singleton.1 hd]; exact hc

theorem parseValue_sp (fuel dp : Nat) (cs : List Char) : parseValue fuel dp (' ' :: cs) = parseValue fuel dp cs :=
  parseValue_blank (blank_one rfl) fuel dp cs
theorem parseElems_nl (fuel dp : Nat) (cs : List Char) (acc) :
    parseElems fuel dp ('\n' :: cs) acc = parseElems fuel dp cs acc :=
  parseElems_blank (blank_one rfl) fuel dp cs acc
theorem parseMembers_nl (fuel dp : Nat) (cs : List Char) (acc) :
    parseMembers fuel dp ('\n' :: cs) acc = parseMembers fuel dp cs acc :=
  parseMembers_blank (blank_one rfl) fuel dp cs acc

theorem blank_cons {c : Char} (hc : isWs c = true) {ws : List Char} (h : Blank ws) : Blank (c :: ws) := by
  intro d hd
  rcases List.mem_cons.1 hd with rfl | hd
  · exact hc
  · exact h d hd

theorem numEnd_nl (r : List Char) : NumEnd ('\n' :: r) := numEnd_cons (by decide) r

theorem numEnd_of_isWs {c : Char} (h : isWs c = true) (r : List Char) : NumEnd (c :: r) := by
  simp only [isWs, Bool.or_eq_true, decide_eq_true_eq] at h
  rcases h with ((rfl | rfl) | rfl) | rfl <;> exact numEnd_cons (by decide) r

theorem numEnd_blank {ws : List Char} (h : Blank ws) {r : List Char} (hr : NumEnd r) : NumEnd (ws ++ r) := by
  cases ws with
  | nil => exact hr
  | cons c ws => exact numEnd_of_isWs (h c (by simp)) _

theorem toList_pretty_arr (lvl : Nat) (x : Val) (xs : List Val) (rest : List Char) :
    (pretty lvl (.arr (x :: xs))).toList ++ rest =
      '[' :: '\n' :: ((prettyElems (lvl + 1) (x :: xs)).toList ++ (('\n' :: (indent lvl).toList) ++ ']' :: rest)) := by
  simp [pretty]
theorem toList_pretty_obj (lvl : Nat) (x : String × Val) (xs : List (String × Val)) (rest : List Char) :
    (pretty lvl (.obj (x :: xs))).toList ++ rest =
      '{' :: '\n' :: ((prettyMembers (lvl + 1) (x :: xs)).toList ++ (('\n' :: (indent lvl).toList) ++ '}' :: rest)) := by
  simp [pretty]
theorem toList_prettyElems_one (lvl : Nat) (v : Val) :
    (prettyElems lvl [v]).toList = (indent lvl).toList ++ (pretty lvl v).toList := by
  simp [prettyElems]
theorem toList_prettyElems_cons (lvl : Nat) (v w : Val) (vs : List Val) :
    (prettyElems lvl (v :: w :: vs)).toList =
      (indent lvl).toList ++ ((pretty lvl v).toList ++ ',' :: '\n' :: (prettyElems lvl (w :: vs)).toList) := by
  simp [prettyElems]
theorem toList_prettyMembers_one (lvl : Nat) (k : String) (v : Val) :
    (prettyMembers lvl [(k, v)]).toList =
      (indent lvl).toList ++ '"' :: (k.toList.flatMap escapeChar ++ '"' :: ':' :: ' ' :: (pretty lvl v).toList) := by
  simp [prettyMembers, toList_quote]
theorem toList_prettyMembers_cons (lvl : Nat) (k : String) (v : Val) (kv : String × Val) (r : List (String × Val)) :
    (prettyMembers lvl ((k, v) :: kv :: r)).toList =
      (indent lvl).toList ++ '"' :: (k.toList.flatMap escapeChar ++ '"' :: ':' :: ' ' ::
        ((pretty lvl v).toList ++ ',' :: '\n' :: (prettyMembers lvl (kv :: r)).toList)) := by
  simp [prettyMembers, toList_quote]

mutual
/-- `pv` for the pretty text at indentation `lvl`. -/
theorem ppv : (v : Val) → Shape FloatRoundTrips v → ∀ (lvl fuel dp : Nat) (rest : List Char), NumEnd rest →
    depth v < dp → (pretty lvl v).toList.length + 1 ≤ fuel →
    parseValue fuel dp ((pretty lvl v).toList ++ rest) = some (v, rest) := by
  intro v hs lvl fuel dp rest hr hd hf
  obtain ⟨f, rfl, _⟩ := fuel_succ hf
  cases v with
  | arr xs =>
    have ih := ppe xs hs
    rw [depth] at hd
    cases xs with
    | nil => rw [pretty]; exact parseValue_arr_nil f dp (by omega) _ _ (skipWs_cons_of_not_ws rfl _)
    | cons x xs =>
      have hl := congrArg List.length (toList_pretty_arr lvl x xs [])
      rw [toList_pretty_arr]
      apply parseValue_arr_of_elems (by omega)
      rw [parseElems_nl]
      exact ih nofun (lvl + 1) f (dp - 1) rest [] _ (blank_cons rfl (blank_indent lvl)) (by omega) (by length_arith)
  | obj kvs =>
    have ih := ppm kvs hs.1
    rw [depth] at hd
    cases kvs with
    | nil => rw [pretty]; exact parseValue_obj_nil f dp (by omega) _ _ (skipWs_cons_of_not_ws rfl _)
    | cons x xs =>
      have hl := congrArg List.length (toList_pretty_obj lvl x xs [])
      rw [toList_pretty_obj]
      apply parseValue_obj_of_members (by omega)
      rw [parseMembers_nl]
      exact ih nofun (lvl + 1) f (dp - 1) rest [] _ (blank_cons rfl (blank_indent lvl)) hs.2 (by omega)
        (by length_arith)
  | _ => rw [pretty_scalar lvl rfl]; exact parseValue_scalar hs rfl f dp hr
/-- `pe` for the pretty text; `ws` is the line break and indentation before the closing `]`. -/
theorem ppe : (xs : List Val) → ShapeVals FloatRoundTrips xs → xs ≠ [] →
    ∀ (lvl fuel dp : Nat) (rest : List Char) (acc : List Val) (ws : List Char), (∀ c ∈ ws, isWs c = true) →
    depthVals xs < dp → (prettyElems lvl xs).toList.length + 2 ≤ fuel →
    parseElems fuel dp ((prettyElems lvl xs).toList ++ (ws ++ ']' :: rest)) acc = some (acc.reverse ++ xs, rest) := by
  intro xs hs hne lvl fuel dp rest acc ws hws hd hf
  obtain ⟨f, rfl, _⟩ := fuel_succ hf
  cases xs with
  | nil => exact absurd rfl hne
  | cons v vs =>
    have ihv := ppv v hs.1 lvl f dp
    have ihs := ppe vs hs.2
    rw [depthVals] at hd
    cases vs with
    | nil =>
      rw [toList_prettyElems_one] at hf ⊢
      rw [List.append_assoc, parseElems_blank (blank_indent lvl),
        parseElems_last (ihv _ (numEnd_blank hws (numEnd_cons (by decide) rest)) (by omega) (by length_arith))
          (skipWs_blank_punct hws rfl rest)]
      simp
    | cons w vs =>
      rw [toList_prettyElems_cons] at hf ⊢
      simp only [List.cons_append, List.append_assoc]
      rw [parseElems_blank (blank_indent lvl),
        parseElems_more (ihv _ (numEnd_cons (by decide) _) (by omega) (by length_arith)) (skipWs_cons_of_not_ws rfl _),
        parseElems_nl,
        ihs nofun lvl f dp rest (v :: acc) ws hws (by omega) (by length_arith)]
      simp
/-- `pm` for the pretty text; `ws` is the line break and indentation before the closing `}`. -/
theorem ppm : (kvs : List (String × Val)) → ShapeKvs FloatRoundTrips kvs → kvs ≠ [] →
    ∀ (lvl fuel dp : Nat) (rest : List Char) (acc : List (String × Val)) (ws : List Char), (∀ c ∈ ws, isWs c = true) →
    (acc ++ kvs).Pairwise (fun a b => a.1 < b.1) →
    depthKvs kvs < dp → (prettyMembers lvl kvs).toList.length + 2 ≤ fuel →
    parseMembers fuel dp ((prettyMembers lvl kvs).toList ++ (ws ++ '}' :: rest)) acc = some (acc ++ kvs, rest) := by
  intro kvs hs hne lvl fuel dp rest acc ws hws hp hd hf
  obtain ⟨f, rfl, _⟩ := fuel_succ hf
  cases kvs with
  | nil => exact absurd rfl hne
  | cons kv r =>
    obtain ⟨k, v⟩ := kv
    have ihv := ppv v hs.1 lvl f dp
    have ihs := ppm r hs.2
    rw [depthKvs] at hd
    cases r with
    | nil =>
      rw [toList_prettyMembers_one] at hf ⊢
      simp only [List.cons_append, List.append_assoc]
      rw [parseMembers_last (skipWs_blank_punct (blank_indent lvl) rfl _) (skipWs_cons_of_not_ws rfl _)
        (by rw [parseValue_sp]
            exact ihv _ (numEnd_blank hws (numEnd_cons (by decide) rest)) (by omega) (by length_arith))
        (skipWs_blank_punct hws rfl rest), insertKV_last hp]
    | cons kv r =>
      rw [toList_prettyMembers_cons] at hf ⊢
      simp only [List.cons_append, List.append_assoc]
      rw [parseMembers_more (skipWs_blank_punct (blank_indent lvl) rfl _) (skipWs_cons_of_not_ws rfl _)
        (by rw [parseValue_sp]
            exact ihv _ (numEnd_cons (by decide) _) (by omega) (by length_arith))
        (skipWs_cons_of_not_ws rfl _), insertKV_last hp, parseMembers_nl,
        ihs nofun lvl f dp rest _ ws hws (by simpa using hp) (by omega) (by length_arith)]
      simp
end

end JsonRT

/-- parsing the compact text of a printable value yields the value -/
theorem parse_compact (v : Val) (hv : v.Printable FloatRoundTrips) :
    JsonText.parse (JsonPrint.compact v).toList = some v := by
  have h := JsonRT.pv v hv.1 (2 * (compact v).toList.length + 2) 128 [] JsonRT.numEnd_nil hv.2 (by omega)
  rw [List.append_nil] at h
  simp [parse, h, skipWs]

/-- generalisation to any float predicate that implies the round-trip property -/
theorem parse_compact_of (floatOk : F64 → Prop) (hok : ∀ f, floatOk f → FloatRoundTrips f) (v : Val)
    (hv : v.Printable floatOk) : JsonText.parse (JsonPrint.compact v).toList = some v :=
  parse_compact v ⟨JsonRT.Shape.mono hok v hv.1, hv.2⟩

/-- unconditional corollary: values without doubles -/
theorem parse_compact_noFloat (v : Val) (hv : v.Printable (fun _ => False)) :
    JsonText.parse (JsonPrint.compact v).toList = some v :=
  parse_compact_of _ (fun _ h => h.elim) v hv

/-- parsing the pretty-printed text of a printable value yields the value -/
theorem parse_pretty (v : Val) (hv : v.Printable FloatRoundTrips) :
    JsonText.parse (JsonPrint.pretty 0 v).toList = some v := by
  have h := JsonRT.ppv v hv.1 0 (2 * (pretty 0 v).toList.length + 2) 128 [] JsonRT.numEnd_nil hv.2 (by omega)
  rw [List.append_nil] at h
  simp [parse, h, skipWs]

theorem parse_pretty_noFloat (v : Val) (hv : v.Printable (fun _ => False)) :
    JsonText.parse (JsonPrint.pretty 0 v).toList = some v :=
  parse_pretty v ⟨JsonRT.Shape.mono (fun _ h => h.elim) v hv.1, hv.2⟩

end JmesVerif

#print axioms JmesVerif.parse_pretty
#print axioms JmesVerif.parse_compact_noFloat
#print axioms JmesVerif.parse_compact
