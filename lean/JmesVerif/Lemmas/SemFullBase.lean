import JmesVerif.Spec.SemFull
import JmesVerif.Model.Interp
import JmesVerif.Props.C07
import JmesVerif.Lemmas.SemConformBase
/-
Convergence rules for the full language, in the form needed when the tree contains calls: offsets
matter there (a call sets `ctx.offset`, errors record it), so instead of comparing `a` with
`a.strip` afterwards (`strip_same`, `Lemmas/SemStrip.lean`, which holds without calls only), every
rule speaks about *all trees with the same stripped form* at once (`CIF rt d a0 off s`: every `a`
with `a.strip = a0.strip`, given enough fuel, evaluates to what the semantics says, `none` standing
for any genuine `JmespathError`).  The `strip_inv_*` lemmas recover the shape of such an `a` from
that of `a0`.  `mapShape_eq`, `byShape_eq` and `lookup_mem_names` are about `SemFull` alone and
are what `Lemmas/SemFullWidth.lean` and `Lemmas/SemFullJson.lean` take from this file.
-/
namespace JmesVerif
open Spec

/-- a `JmespathError` the real code can return (not a panic, not the model's fuel exhaustion) -/
def EvalErr.genuine : EvalErr → Bool
  | .runtime _ _ => true
  | .internal _ => true
  | _ => false

/-- the outcome `r` is the value `s` (offset unchanged), or — for `none` — a genuine error.
Definitionally `AgreesE Genuine` (`Lemmas/SemConformBase.lean`, `Genuine` below); the `cif_*` rules
rely on it when they close a goal with a `ci_*` rule. -/
def AgreesF {α : Type} (r : ERes α) (s : Option α) (off : Nat) : Prop :=
  match s with
  | some v => r = .ok (v, off)
  | none => ∃ e, r = .error e ∧ e.genuine = true

theorem strip_inv_comparison {a : Ast} {o : Nat} {c : Cmp} {l r : Ast}
    (h : a.strip = (Ast.comparison o c l r).strip) :
    ∃ o' l' r', a = .comparison o' c l' r' ∧ l'.strip = l.strip ∧ r'.strip = r.strip := by
  cases a <;> simp [Ast.strip] at h
  obtain ⟨rfl, h1, h2⟩ := h; exact ⟨_, _, _, rfl, h1, h2⟩
theorem strip_inv_condition {a : Ast} {o : Nat} {l r : Ast}
    (h : a.strip = (Ast.condition o l r).strip) :
    ∃ o' l' r', a = .condition o' l' r' ∧ l'.strip = l.strip ∧ r'.strip = r.strip := by
  cases a <;> simp [Ast.strip] at h
  obtain ⟨h1, h2⟩ := h; exact ⟨_, _, _, rfl, h1, h2⟩
theorem strip_inv_identity {a : Ast} {o : Nat} (h : a.strip = (Ast.identity o).strip) :
    ∃ o', a = .identity o' := by
  cases a <;> simp [Ast.strip] at h
  exact ⟨_, rfl⟩
theorem strip_inv_expref {a : Ast} {o : Nat} {b : Ast} (h : a.strip = (Ast.expref o b).strip) :
    ∃ o' b', a = .expref o' b' ∧ b'.strip = b.strip := by
  cases a <;> simp [Ast.strip] at h
  exact ⟨_, _, rfl, h⟩
theorem strip_inv_flatten {a : Ast} {o : Nat} {b : Ast} (h : a.strip = (Ast.flatten o b).strip) :
    ∃ o' b', a = .flatten o' b' ∧ b'.strip = b.strip := by
  cases a <;> simp [Ast.strip] at h
  exact ⟨_, _, rfl, h⟩
theorem strip_inv_function {a : Ast} {o : Nat} {name : String} {args : List Ast}
    (h : a.strip = (Ast.function o name args).strip) :
    ∃ o' args', a = .function o' name args' ∧ stripList args' = stripList args := by
  cases a <;> simp [Ast.strip] at h
  obtain ⟨rfl, h⟩ := h; exact ⟨_, _, rfl, h⟩
theorem strip_inv_field {a : Ast} {o : Nat} {name : String} (h : a.strip = (Ast.field o name).strip) :
    ∃ o', a = .field o' name := by
  cases a <;> simp [Ast.strip] at h
  subst h; exact ⟨_, rfl⟩
theorem strip_inv_index {a : Ast} {o : Nat} {i : Int} (h : a.strip = (Ast.index o i).strip) :
    ∃ o', a = .index o' i := by
  cases a <;> simp [Ast.strip] at h
  subst h; exact ⟨_, rfl⟩
theorem strip_inv_literal {a : Ast} {o : Nat} {v : Val} (h : a.strip = (Ast.literal o v).strip) :
    ∃ o', a = .literal o' v := by
  cases a <;> simp [Ast.strip] at h
  subst h; exact ⟨_, rfl⟩
theorem strip_inv_multiList {a : Ast} {o : Nat} {es : List Ast} (h : a.strip = (Ast.multiList o es).strip) :
    ∃ o' es', a = .multiList o' es' ∧ stripList es' = stripList es := by
  cases a <;> simp [Ast.strip] at h
  exact ⟨_, _, rfl, h⟩
theorem strip_inv_multiHash {a : Ast} {o : Nat} {kvs : List (String × Ast)}
    (h : a.strip = (Ast.multiHash o kvs).strip) :
    ∃ o' kvs', a = .multiHash o' kvs' ∧ stripKVs kvs' = stripKVs kvs := by
  cases a <;> simp [Ast.strip] at h
  exact ⟨_, _, rfl, h⟩
theorem strip_inv_not {a : Ast} {o : Nat} {b : Ast} (h : a.strip = (Ast.not o b).strip) :
    ∃ o' b', a = .not o' b' ∧ b'.strip = b.strip := by
  cases a <;> simp [Ast.strip] at h
  exact ⟨_, _, rfl, h⟩
theorem strip_inv_projection {a : Ast} {o : Nat} {l r : Ast}
    (h : a.strip = (Ast.projection o l r).strip) :
    ∃ o' l' r', a = .projection o' l' r' ∧ l'.strip = l.strip ∧ r'.strip = r.strip := by
  cases a <;> simp [Ast.strip] at h
  obtain ⟨h1, h2⟩ := h; exact ⟨_, _, _, rfl, h1, h2⟩
theorem strip_inv_objectValues {a : Ast} {o : Nat} {b : Ast} (h : a.strip = (Ast.objectValues o b).strip) :
    ∃ o' b', a = .objectValues o' b' ∧ b'.strip = b.strip := by
  cases a <;> simp [Ast.strip] at h
  exact ⟨_, _, rfl, h⟩
theorem strip_inv_and {a : Ast} {o : Nat} {l r : Ast} (h : a.strip = (Ast.and o l r).strip) :
    ∃ o' l' r', a = .and o' l' r' ∧ l'.strip = l.strip ∧ r'.strip = r.strip := by
  cases a <;> simp [Ast.strip] at h
  obtain ⟨h1, h2⟩ := h; exact ⟨_, _, _, rfl, h1, h2⟩
theorem strip_inv_or {a : Ast} {o : Nat} {l r : Ast} (h : a.strip = (Ast.or o l r).strip) :
    ∃ o' l' r', a = .or o' l' r' ∧ l'.strip = l.strip ∧ r'.strip = r.strip := by
  cases a <;> simp [Ast.strip] at h
  obtain ⟨h1, h2⟩ := h; exact ⟨_, _, _, rfl, h1, h2⟩
theorem strip_inv_slice {a : Ast} {o : Nat} {x y : Option Int} {z : Int}
    (h : a.strip = (Ast.slice o x y z).strip) : ∃ o', a = .slice o' x y z := by
  cases a <;> simp [Ast.strip] at h
  obtain ⟨rfl, rfl, rfl⟩ := h; exact ⟨_, rfl⟩
theorem strip_inv_subexpr {a : Ast} {o : Nat} {l r : Ast} (h : a.strip = (Ast.subexpr o l r).strip) :
    ∃ o' l' r', a = .subexpr o' l' r' ∧ l'.strip = l.strip ∧ r'.strip = r.strip := by
  cases a <;> simp [Ast.strip] at h
  obtain ⟨h1, h2⟩ := h; exact ⟨_, _, _, rfl, h1, h2⟩
theorem stripList_inv_nil {es : List Ast} (h : stripList es = stripList []) : es = [] := by
  cases es <;> simp [stripList] at h ⊢
theorem stripList_inv_cons {es : List Ast} {a : Ast} {rest : List Ast}
    (h : stripList es = stripList (a :: rest)) :
    ∃ a' rest', es = a' :: rest' ∧ a'.strip = a.strip ∧ stripList rest' = stripList rest := by
  cases es <;> simp [stripList] at h
  exact ⟨_, _, rfl, h.1, h.2⟩
theorem stripKVs_inv_nil {kvs : List (String × Ast)} (h : stripKVs kvs = stripKVs []) : kvs = [] := by
  cases kvs with
  | nil => rfl
  | cons p r => obtain ⟨k, a⟩ := p; simp [stripKVs] at h
theorem stripKVs_inv_cons {kvs : List (String × Ast)} {k : String} {a : Ast} {rest : List (String × Ast)}
    (h : stripKVs kvs = stripKVs ((k, a) :: rest)) :
    ∃ a' rest', kvs = (k, a') :: rest' ∧ a'.strip = a.strip ∧ stripKVs rest' = stripKVs rest := by
  cases kvs with
  | nil => simp [stripKVs] at h
  | cons p r =>
    obtain ⟨k', a'⟩ := p
    simp [stripKVs] at h
    obtain ⟨⟨rfl, h1⟩, h2⟩ := h
    exact ⟨_, _, rfl, h1, h2⟩

theorem mapShape_eq {as : List SemFull.Arg} {p : (Val → Option Val) × List Val}
    (h : SemFull.mapShape as = some p) : as = [.fn p.1, .val (.arr p.2)] := by
  unfold SemFull.mapShape at h
  split at h
  · simp only [Option.some.injEq] at h; subst h; rfl
  · simp at h

theorem byShape_eq {as : List SemFull.Arg} {p : (Val → Option Val) × List Val}
    (h : SemFull.byShape as = some p) : as = [.val (.arr p.2), .fn p.1] := by
  unfold SemFull.byShape at h
  split at h
  · simp only [Option.some.injEq] at h; subst h; rfl
  · simp at h

theorem lookup_mem_names {α : Type} (l : List (String × α)) (k : String) (v : α)
    (h : l.lookup k = some v) : (k, v) ∈ l := by
  obtain ⟨_, _, rfl, _⟩ := List.lookup_eq_some_iff.mp h
  simp

section rules
variable (rt : Registry)

def CIF (d : Val) (a0 : Ast) (off : Nat) (s : Option Val) : Prop :=
  ∀ a, a.strip = a0.strip → ∃ n, ∀ fuel, n ≤ fuel → AgreesF (interp rt fuel d a off) s off
def CAF (d : Val) (es0 : List Ast) (off : Nat) (s : Option (List Val)) : Prop :=
  ∀ es, stripList es = stripList es0 → ∃ n, ∀ fuel, n ≤ fuel → AgreesF (interpAll rt fuel d es off) s off
def CKF (d : Val) (kvs0 : List (String × Ast)) (acc : List (String × Val)) (off : Nat)
    (s : Option (List (String × Val))) : Prop :=
  ∀ kvs, stripKVs kvs = stripKVs kvs0 →
    ∃ n, ∀ fuel, n ≤ fuel → AgreesF (interpKVs rt fuel d kvs acc off) s off

theorem CIF.congr {d : Val} {a : Ast} {off : Nat} {s s' : Option Val} (h : CIF rt d a off s) (e : s = s') :
    CIF rt d a off s' := e ▸ h
theorem CAF.congr {d : Val} {a : List Ast} {off : Nat} {s s' : Option (List Val)} (h : CAF rt d a off s)
    (e : s = s') : CAF rt d a off s' := e ▸ h
theorem CKF.congr {d : Val} {a : List (String × Ast)} {acc : List (String × Val)} {off : Nat}
    {s s' : Option (List (String × Val))} (h : CKF rt d a acc off s) (e : s = s') :
    CKF rt d a acc off s' := e ▸ h

/-- the error class of the full language -/
abbrev Genuine (e : EvalErr) : Prop := e.genuine = true

/-! Each rule is the rule of `Lemmas/SemConformBase.lean` for the class `Genuine`, applied to the
parts of a tree with the given stripped form. -/

theorem cif_identity (d : Val) (o off : Nat) : CIF rt d (.identity o) off (some d) := by
  intro a ha
  obtain ⟨o', rfl⟩ := strip_inv_identity ha
  exact ci_identity rt Genuine d o' off

theorem cif_field (d : Val) (o off : Nat) (s : String) : CIF rt d (.field o s) off (some (Sem.field d s)) := by
  intro a ha
  obtain ⟨o', rfl⟩ := strip_inv_field ha
  exact ci_field rt Genuine d o' off s

theorem cif_literal (d v : Val) (o off : Nat) : CIF rt d (.literal o v) off (some v) := by
  intro a ha
  obtain ⟨o', rfl⟩ := strip_inv_literal ha
  exact ci_literal rt Genuine d v o' off

theorem cif_index (d : Val) (o off : Nat) (i : Int) : CIF rt d (.index o i) off (some (Sem.index d i)) := by
  intro a ha
  obtain ⟨o', rfl⟩ := strip_inv_index ha
  exact ci_index rt Genuine d o' off i

theorem cif_subexpr {d : Val} {l r : Ast} {o off : Nat} {sl : Option Val} {g : Val → Option Val}
    (hl : CIF rt d l off sl) (hr : ∀ lv, sl = some lv → CIF rt lv r off (g lv)) :
    CIF rt d (.subexpr o l r) off (sl.bind g) := by
  intro a ha
  obtain ⟨o', l', r', rfl, hl', hr'⟩ := strip_inv_subexpr ha
  exact ci_subexpr rt Genuine (hl l' hl') (fun lv h => hr lv h r' hr')

theorem cif_or {d : Val} {l r : Ast} {o off : Nat} {sl sr : Option Val}
    (hl : CIF rt d l off sl) (hr : ∀ lv, sl = some lv → lv.truthy = false → CIF rt d r off sr) :
    CIF rt d (.or o l r) off (sl.bind fun lv => if lv.truthy then some lv else sr) := by
  intro a ha
  obtain ⟨o', l', r', rfl, hl', hr'⟩ := strip_inv_or ha
  exact ci_or rt Genuine (hl l' hl') (fun lv h ht => hr lv h ht r' hr')

theorem cif_and {d : Val} {l r : Ast} {o off : Nat} {sl sr : Option Val}
    (hl : CIF rt d l off sl) (hr : ∀ lv, sl = some lv → lv.truthy = true → CIF rt d r off sr) :
    CIF rt d (.and o l r) off (sl.bind fun lv => if !lv.truthy then some lv else sr) := by
  intro a ha
  obtain ⟨o', l', r', rfl, hl', hr'⟩ := strip_inv_and ha
  exact ci_and rt Genuine (hl l' hl') (fun lv h ht => hr lv h ht r' hr')

theorem cif_not {d : Val} {a : Ast} {o off : Nat} {s : Option Val}
    (h : CIF rt d a off s) : CIF rt d (.not o a) off (s.map fun v => .bool (!v.truthy)) := by
  intro a0 ha
  obtain ⟨o', a', rfl, ha'⟩ := strip_inv_not ha
  exact ci_not rt Genuine (h a' ha')

theorem cif_condition {d : Val} {p t : Ast} {o off : Nat} {sp st : Option Val}
    (hp : CIF rt d p off sp) (ht : ∀ c, sp = some c → c.truthy = true → CIF rt d t off st) :
    CIF rt d (.condition o p t) off (sp.bind fun c => if c.truthy then st else some .null) := by
  intro a ha
  obtain ⟨o', p', t', rfl, hp', ht'⟩ := strip_inv_condition ha
  exact ci_condition rt Genuine (hp p' hp') (fun c h hc => ht c h hc t' ht')

theorem cif_comparison {d : Val} {l r : Ast} {o off : Nat} {c : Cmp} {sl sr : Option Val}
    (hl : CIF rt d l off sl) (hr : ∀ lv, sl = some lv → CIF rt d r off sr) :
    CIF rt d (.comparison o c l r) off (sl.bind fun lv => sr.map fun rv => Sem.cmpVal c lv rv) := by
  intro a ha
  obtain ⟨o', l', r', rfl, hl', hr'⟩ := strip_inv_comparison ha
  exact ci_comparison rt Genuine (hl l' hl') (fun lv h => hr lv h r' hr')

theorem cif_multiList {d : Val} {es : List Ast} {o off : Nat} {s : Option (List Val)}
    (h : d.isNull = false → CAF rt d es off s) :
    CIF rt d (.multiList o es) off (if d.isNull then some .null else s.map .arr) := by
  intro a ha
  obtain ⟨o', es', rfl, hes'⟩ := strip_inv_multiList ha
  exact ci_multiList rt Genuine (fun hn => h hn es' hes')

theorem cif_multiHash {d : Val} {kvs : List (String × Ast)} {o off : Nat}
    {s : Option (List (String × Val))}
    (h : d.isNull = false → CKF rt d kvs [] off s) :
    CIF rt d (.multiHash o kvs) off (if d.isNull then some .null else s.map .obj) := by
  intro a ha
  obtain ⟨o', kvs', rfl, hk'⟩ := strip_inv_multiHash ha
  exact ci_multiHash rt Genuine (fun hn => h hn kvs' hk')

theorem caf_nil (d : Val) (off : Nat) : CAF rt d [] off (some []) := by
  intro es hes
  rw [stripList_inv_nil hes]
  exact ca_nil rt Genuine d off

theorem caf_cons {d : Val} {a : Ast} {rest : List Ast} {off : Nat} {s1 : Option Val}
    {s2 : Option (List Val)}
    (h1 : CIF rt d a off s1) (h2 : ∀ v, s1 = some v → CAF rt d rest off s2) :
    CAF rt d (a :: rest) off (s1.bind fun v => s2.map (v :: ·)) := by
  intro es hes
  obtain ⟨a', rest', rfl, ha', hrest'⟩ := stripList_inv_cons hes
  exact ca_cons rt Genuine (h1 a' ha') (fun v h => h2 v h rest' hrest')

theorem ckf_nil (d : Val) (acc : List (String × Val)) (off : Nat) : CKF rt d [] acc off (some acc) := by
  intro kvs hk
  rw [stripKVs_inv_nil hk]
  exact ck_nil rt Genuine d acc off

theorem ckf_cons {d : Val} {k : String} {a : Ast} {rest : List (String × Ast)}
    {acc : List (String × Val)} {off : Nat} {s1 : Option Val}
    {g : Val → Option (List (String × Val))}
    (h1 : CIF rt d a off s1) (h2 : ∀ v, s1 = some v → CKF rt d rest (insertKV k v acc) off (g v)) :
    CKF rt d ((k, a) :: rest) acc off (s1.bind g) := by
  intro kvs hkvs
  obtain ⟨a', rest', rfl, ha', hrest'⟩ := stripKVs_inv_cons hkvs
  exact ck_cons rt Genuine (h1 a' ha') (fun v h => h2 v h rest' hrest')

/-- a projection node: left side, then the right side on every element, nulls dropped -/
theorem cif_proj {off : Nat} {d : Val} {lhs rhsA : Ast} {sl : Option Val} {f : Val → Option Val}
    (hl : CIF rt d lhs off sl)
    (hx : ∀ xs, sl = some (.arr xs) → ∀ x ∈ xs, CIF rt x rhsA off (f x)) :
    CIF rt d (.projection 0 lhs rhsA) off
      (sl.bind fun v => match v with
        | .arr xs => (Sem.optMapM f xs).map (fun ys => .arr (Sem.dropNulls ys))
        | _ => some .null) := by
  intro a ha
  obtain ⟨o', l', r', rfl, hl', hr'⟩ := strip_inv_projection ha
  exact ci_proj rt Genuine off (hl l' hl') (fun xs h x hm => hx xs h x hm r' hr')

theorem cif_objProj {off : Nat} {d : Val} {lhs rhsA : Ast} {sl : Option Val} {f : Val → Option Val}
    (hl : CIF rt d lhs off sl)
    (hx : ∀ m, sl = some (.obj m) → ∀ x ∈ Sem.values m, CIF rt x rhsA off (f x)) :
    CIF rt d (.projection 0 (.objectValues 0 lhs) rhsA) off
      (sl.bind fun v => match v with
        | .obj m => (Sem.optMapM f (Sem.values m)).map (fun ys => .arr (Sem.dropNulls ys))
        | _ => some .null) := by
  intro a ha
  obtain ⟨_, l', r', rfl, hl', hr'⟩ := strip_inv_projection ha
  obtain ⟨_, a', rfl, ha'⟩ := strip_inv_objectValues hl'
  exact ci_objProj rt Genuine off (hl a' ha') fun m hm x hm' => hx m hm x hm' r' hr'

theorem cif_flatProj {off : Nat} {d : Val} {lhs rhsA : Ast} {sl : Option Val} {f : Val → Option Val}
    (hl : CIF rt d lhs off sl)
    (hx : ∀ ys, sl = some (.arr ys) → ∀ x ∈ Sem.flatten1 ys, CIF rt x rhsA off (f x)) :
    CIF rt d (.projection 0 (.flatten 0 lhs) rhsA) off
      (sl.bind fun v => match v with
        | .arr ys => (Sem.optMapM f (Sem.flatten1 ys)).map (fun zs => .arr (Sem.dropNulls zs))
        | _ => some .null) := by
  intro a ha
  obtain ⟨_, l', r', rfl, hl', hr'⟩ := strip_inv_projection ha
  obtain ⟨_, a', rfl, ha'⟩ := strip_inv_flatten hl'
  exact ci_flatProj rt Genuine off (hl a' ha') fun ys hy x hm => hx ys hy x hm r' hr'

theorem cif_sliceProj {off : Nat} {d : Val} {rhsA : Ast} {a b : Option Int} {step : Int}
    {f : Val → Option Val}
    (hx : step ≠ 0 → ∀ ys, d = .arr ys → (ys.length : Int) ≤ I32_MAX ∧
      ∀ x ∈ pySlice ys a b step, CIF rt x rhsA off (f x)) :
    CIF rt d (.projection 0 (.slice 0 a b step) rhsA) off
      (if step = 0 then none else
        match (generalizing := false) d with
        | .arr ys => (Sem.optMapM f (pySlice ys a b step)).map (fun zs => .arr (Sem.dropNulls zs))
        | _ => some .null) := by
  intro a0 ha
  obtain ⟨_, l', r', rfl, hl', hr'⟩ := strip_inv_projection ha
  obtain ⟨_, rfl⟩ := strip_inv_slice hl'
  exact ci_sliceProj rt Genuine (fun _ => rfl) off fun h0 ys hy =>
    ⟨(hx h0 ys hy).1, fun x hm => (hx h0 ys hy).2 x hm r' hr'⟩

end rules

end JmesVerif
