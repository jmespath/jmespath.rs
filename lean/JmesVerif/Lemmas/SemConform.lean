import JmesVerif.Spec.Sem
import JmesVerif.Model.Interp
import JmesVerif.Props.C07
import JmesVerif.Lemmas.SemStrip
import JmesVerif.Lemmas.SemFullJson
import JmesVerif.Lemmas.SemConformBase
import JmesVerif.Lemmas.SemSafe
import JmesVerif.Lemmas.SemWidth
/-!
Core C01: on `e.ast` the interpreter converges to `Sem.expr d e` (`expr_conv`), and `strip_same`
carries this to every tree with the same `strip` (`C01_conformance_safe`).  That intermediate values
are JSON (`nud_json`, `led_json`, `expr_json`) is taken from `Lemmas/SemFullJson.lean`, where it
follows from the full-language lemmas through `SemFull_eq_Sem`: core C01 rests on those.
-/
namespace JmesVerif
open Spec

/-- what a search outcome means for a core expression: a value, the invalid-slice error, or something else -/
def resultOf : ERes Val → Option (Option Val)
  | .ok (v, _) => some (some v)
  | .error (.runtime .invalidSlice _) => some none
  | .error _ => none

mutual
theorem nud_plain : ∀ h : Nud, Sem.nudCore h = true → h.ast.plain = true
  | .at, _ => rfl
  | .field _, _ => rfl
  | .qfield _, _ => rfl
  | .call _ _, hc => by simp [Sem.nudCore] at hc
  | .lit _, _ => rfl
  | .idx _, _ => rfl
  | .paren e, hc => by simpa [Nud.ast] using expr_plain e hc
  | .not e, hc => by simpa [Nud.ast, Ast.plain] using expr_plain e hc
  | .mlist es, hc => by simpa [Nud.ast, Ast.plain] using exprs_plain es hc
  | .mhash kvs, hc => by simpa [Nud.ast, Ast.plain] using kvs_plain kvs hc
  | .wildIdx r, hc => by simpa [Nud.ast, Ast.plain] using rhs_plain r hc
  | .star r, hc => by simpa [Nud.ast, Ast.plain] using rhs_plain r hc
  | .flatten r, hc => by simpa [Nud.ast, Ast.plain] using rhs_plain r hc
  | .slice _ r, hc => by simpa [Nud.ast, Ast.plain] using rhs_plain r hc
  | .filter p r, hc => by
    simp only [Sem.nudCore, Bool.and_eq_true] at hc
    simp [Nud.ast, Ast.plain, expr_plain p hc.1, rhs_plain r hc.2]
  | .expref _, hc => by simp [Sem.nudCore] at hc
theorem led_plain : ∀ l : Led, Sem.ledCore l = true → ∀ left : Ast, left.plain = true →
    (l.ast left).plain = true
  | .dot dr, hc, left, hl => by simp [Led.ast, Ast.plain, hl, dot_plain dr hc]
  | .index _, _, left, hl => by simp [Led.ast, Ast.plain, hl]
  | .pipe e, hc, left, hl => by simp [Led.ast, Ast.plain, hl, expr_plain e hc]
  | .or e, hc, left, hl => by simp [Led.ast, Ast.plain, hl, expr_plain e hc]
  | .and e, hc, left, hl => by simp [Led.ast, Ast.plain, hl, expr_plain e hc]
  | .cmp _ e, hc, left, hl => by simp [Led.ast, Ast.plain, hl, expr_plain e hc]
  | .wildIdxL r, hc, left, hl => by simp [Led.ast, Ast.plain, hl, rhs_plain r hc]
  | .dotStar r, hc, left, hl => by simp [Led.ast, Ast.plain, hl, rhs_plain r hc]
  | .flattenL r, hc, left, hl => by simp [Led.ast, Ast.plain, hl, rhs_plain r hc]
  | .sliceL _ r, hc, left, hl => by simp [Led.ast, Ast.plain, hl, rhs_plain r hc]
  | .filterL p r, hc, left, hl => by
    simp only [Sem.ledCore, Bool.and_eq_true] at hc
    simp [Led.ast, Ast.plain, hl, expr_plain p hc.1, rhs_plain r hc.2]
  | .callDev _, hc, _, _ => by simp [Sem.ledCore] at hc
theorem rhs_plain : ∀ r : Rhs, Sem.rhsCore r = true → r.ast.plain = true
  | .none, _ => rfl
  | .dot dr, hc => by simpa [Rhs.ast] using dot_plain dr hc
  | .bracket e, hc => by simpa [Rhs.ast] using expr_plain e hc
theorem dot_plain : ∀ dr : DotRhs, Sem.dotCore dr = true → dr.ast.plain = true
  | .mlist es, hc => by simpa [DotRhs.ast, Ast.plain] using exprs_plain es hc
  | .expr e, hc => by simpa [DotRhs.ast] using expr_plain e hc
theorem expr_plain : ∀ e : Expr, Sem.exprCore e = true → e.ast.plain = true
  | .mk h ls, hc => by
    simp only [Sem.exprCore, Bool.and_eq_true] at hc
    simpa [Expr.ast] using leds_plain ls hc.2 h.ast (nud_plain h hc.1)
theorem leds_plain : ∀ ls : List Led, Sem.ledsCore ls = true → ∀ left : Ast, left.plain = true →
    (ledsAst left ls).plain = true
  | [], _, left, hl => by simpa [ledsAst] using hl
  | l :: ls, hc, left, hl => by
    simp only [Sem.ledsCore, Bool.and_eq_true] at hc
    simpa [ledsAst] using leds_plain ls hc.2 _ (led_plain l hc.1 left hl)
theorem exprs_plain : ∀ es : List Expr, Sem.exprsCore es = true → plainList (exprsAst es) = true
  | [], _ => rfl
  | e :: es, hc => by
    simp only [Sem.exprsCore, Bool.and_eq_true] at hc
    simp [exprsAst, plainList, expr_plain e hc.1, exprs_plain es hc.2]
theorem kvs_plain : ∀ kvs : List (Bool × String × Expr), Sem.kvsCore kvs = true →
    plainKVs (kvsAst kvs) = true
  | [], _ => rfl
  | (_, _, e) :: r, hc => by
    simp only [Sem.kvsCore, Bool.and_eq_true] at hc
    simp [kvsAst, plainKVs, expr_plain e hc.1, kvs_plain r hc.2]
end

/-! ### the interpreter on `e.ast` converges to `Sem.expr d e`

for any class `E` of errors that contains the invalid-slice error -/
section conv
set_option linter.unusedSectionVars false
variable (rt : Registry) (E : EvalErr → Prop) (hE : ∀ o, E (.runtime .invalidSlice o)) (off : Nat)

theorem CAx.congr {d : Val} {a : List Ast} {s s' : Option (List Val)} (h : CAx rt E d a off s) (e : s = s') :
    CAx rt E d a off s' := e ▸ h
theorem CKx.congr {d : Val} {a : List (String × Ast)} {acc : List (String × Val)}
    {s s' : Option (List (String × Val))} (h : CKx rt E d a acc off s) (e : s = s') :
    CKx rt E d a acc off s' := e ▸ h

include hE

mutual
theorem nud_convE : ∀ h : Nud, Sem.nudCore h = true → ∀ d : Val, d.isJson = true →
    SliceSafe.nud d h → CIx rt E d h.ast off (Sem.nud d h)
  | .at, _, d, _, _ => ci_identity rt E d 0 off
  | .field s, _, d, _, _ => ci_field rt E d 0 off s
  | .qfield s, _, d, _, _ => ci_field rt E d 0 off s
  | .call _ _, hc, _, _, _ => by simp [Sem.nudCore] at hc
  | .lit v, _, d, _, _ => ci_literal rt E d v 0 off
  | .idx n, _, d, _, _ => ci_index rt E d 0 off n
  | .expref _, hc, _, _, _ => by simp [Sem.nudCore] at hc
  | .paren e, hc, d, hd, hs =>
    expr_convE e hc d hd hs
  | .not e, hc, d, hd, hs => by
    simp only [Nud.ast, Sem.nud]
    refine (ci_not rt E (expr_convE e hc d hd hs)).congr rt E off ?_
    cases h : Sem.expr d e with
    | none => rfl
    | some v => simp [truthy_eq v (expr_json e hc d hd v h)]
  | .mlist es, hc, d, hd, hs =>
    ci_multiList rt E (fun hn => exprs_convE es hc d hd (hs hn))
  | .mhash kvs, hc, d, hd, hs =>
    ci_multiHash rt E (fun hn => kvs_convE kvs hc d hd (hs hn) [])
  | .wildIdx r, hc, d, hd, hs =>
    ci_proj rt E off (ci_identity rt E d 0 off) fun xs hxs x hx =>
      have hxs : d = .arr xs := Option.some.inj hxs
      rhs_convE r hc x (arr_json.mp (hxs ▸ hd) x hx) (hs xs hxs x hx)
  | .star r, hc, d, hd, hs =>
    ci_objProj rt E off (ci_identity rt E d 0 off) fun m hm x hx =>
      have hm : d = .obj m := Option.some.inj hm
      rhs_convE r hc x (values_json (hm ▸ hd) x hx) (hs m hm x hx)
  | .flatten r, hc, d, hd, hs =>
    ci_flatProj rt E off (ci_identity rt E d 0 off) fun ys hy x hx =>
      have hy : d = .arr ys := Option.some.inj hy
      rhs_convE r hc x (flatten1_json (hy ▸ hd) x hx) (hs ys hy x hx)
  | .slice h r, hc, d, hd, hs =>
    ci_sliceProj rt E hE off fun h0 ys hy => ⟨(hs h0 ys hy).1, fun x hx =>
      rhs_convE r hc x (pySlice_json (hy ▸ hd) x hx) ((hs h0 ys hy).2 x hx)⟩
  | .filter p r, hc, d, hd, hs => by
    simp only [Sem.nudCore, Bool.and_eq_true] at hc; simp only [SliceSafe.nud] at hs
    refine (ci_proj rt E off (f := fun x => match Sem.expr x p with
      | none => none
      | some c => if Sem.truthy c then Sem.rhs x r else some .null) (ci_identity rt E d 0 off) ?_).congr rt E off ?_
    rotate_left
    · cases d <;> rfl
    · intro xs hxs x hx
      simp only [Option.some.injEq] at hxs
      have hxj := arr_json.mp (hxs ▸ hd) x hx
      have hsx := hs xs hxs x hx
      refine (ci_condition rt E (expr_convE p hc.1 x hxj hsx.1)
        (st := Sem.rhs x r) (fun c hcv ht => rhs_convE r hc.2 x hxj (hsx.2 c hcv ?_))).congr rt E off ?_
      · rw [← truthy_eq c (expr_json p hc.1 x hxj c hcv)]; exact ht
      · cases hcv : Sem.expr x p with
        | none => rfl
        | some c => simp [truthy_eq c (expr_json p hc.1 x hxj c hcv)]
theorem led_convE : ∀ l : Led, Sem.ledCore l = true → ∀ (left : Ast) (d : Val) (sl : Option Val),
    d.isJson = true → CIx rt E d left off sl →
    (∀ lv, sl = some lv → lv.isJson = true ∧ SliceSafe.led d lv l) →
    CIx rt E d (l.ast left) off (sl.bind fun lv => Sem.led d lv l)
  | .callDev _, hc, _, _, _, _, _, _ => by simp [Sem.ledCore] at hc
  | .dot dr, hc, left, d, sl, hd, hl, hs =>
    ci_subexpr rt E hl (fun lv hlv => dot_convE dr hc lv (hs lv hlv).1 (by simpa [SliceSafe.led] using (hs lv hlv).2))
  | .index n, _, left, d, sl, hd, hl, hs =>
    ci_subexpr rt E hl (fun lv _ => ci_index rt E lv 0 off n)
  | .pipe e, hc, left, d, sl, hd, hl, hs =>
    ci_subexpr rt E hl (fun lv hlv => expr_convE e hc lv (hs lv hlv).1 (by simpa [SliceSafe.led] using (hs lv hlv).2))
  | .or e, hc, left, d, sl, hd, hl, hs => by
    simp only [Led.ast, Sem.led]
    refine (ci_or rt E (sr := Sem.expr d e) hl (fun lv hlv ht => expr_convE e hc d hd ?_)).congr rt E off ?_
    · have := (hs lv hlv).2
      simp only [SliceSafe.led] at this
      exact this (by rw [← truthy_eq lv (hs lv hlv).1]; exact ht)
    · cases sl with
      | none => rfl
      | some lv => simp [truthy_eq lv (hs lv rfl).1]
  | .and e, hc, left, d, sl, hd, hl, hs => by
    simp only [Led.ast, Sem.led]
    refine (ci_and rt E (sr := Sem.expr d e) hl (fun lv hlv ht => expr_convE e hc d hd ?_)).congr rt E off ?_
    · have := (hs lv hlv).2
      simp only [SliceSafe.led] at this
      exact this (by rw [← truthy_eq lv (hs lv hlv).1]; exact ht)
    · cases sl with
      | none => rfl
      | some lv => simp [truthy_eq lv (hs lv rfl).1]
  | .cmp o e, hc, left, d, sl, hd, hl, hs =>
    ci_comparison rt E hl (fun lv hlv => expr_convE e hc d hd (by simpa [SliceSafe.led] using (hs lv hlv).2))
  | .wildIdxL r, hc, left, d, sl, hd, hl, hs =>
    ci_proj rt E off hl fun xs hxs x hx =>
      rhs_convE r hc x (arr_json.mp (hs _ hxs).1 x hx) ((hs _ hxs).2 xs rfl x hx)
  | .dotStar r, hc, left, d, sl, hd, hl, hs =>
    ci_objProj rt E off hl fun m hm x hx =>
      rhs_convE r hc x (values_json (hs _ hm).1 x hx) ((hs _ hm).2 m rfl x hx)
  | .flattenL r, hc, left, d, sl, hd, hl, hs =>
    ci_flatProj rt E off hl fun ys hy x hx =>
      rhs_convE r hc x (flatten1_json (hs _ hy).1 x hx) ((hs _ hy).2 ys rfl x hx)
  | .sliceL h r, hc, left, d, sl, hd, hl, hs =>
    ci_subexpr rt E hl fun lv hlv =>
      ci_sliceProj rt E hE off fun h0 ys hy => ⟨((hs lv hlv).2 h0 ys hy).1, fun x hx =>
        rhs_convE r hc x (pySlice_json (hy ▸ (hs lv hlv).1) x hx) (((hs lv hlv).2 h0 ys hy).2 x hx)⟩
  | .filterL p r, hc, left, d, sl, hd, hl, hs => by
    simp only [Sem.ledCore, Bool.and_eq_true] at hc
    refine (ci_proj rt E off (f := fun x => match Sem.expr x p with
      | none => none
      | some c => if Sem.truthy c then Sem.rhs x r else some .null) hl ?_).congr rt E off ?_
    rotate_left
    · cases sl with
      | none => rfl
      | some lv => cases lv <;> rfl
    · intro xs hxs x hx
      have hxj := arr_json.mp (hs _ hxs).1 x hx
      have hsafe := (hs _ hxs).2
      simp only [SliceSafe.led] at hsafe
      have hsx := hsafe xs rfl x hx
      refine (ci_condition rt E (expr_convE p hc.1 x hxj hsx.1)
        (st := Sem.rhs x r) (fun c hcv ht => rhs_convE r hc.2 x hxj (hsx.2 c hcv ?_))).congr rt E off ?_
      · rw [← truthy_eq c (expr_json p hc.1 x hxj c hcv)]; exact ht
      · cases hcv : Sem.expr x p with
        | none => rfl
        | some c => simp [truthy_eq c (expr_json p hc.1 x hxj c hcv)]
theorem rhs_convE : ∀ r : Rhs, Sem.rhsCore r = true → ∀ el : Val, el.isJson = true →
    SliceSafe.rhs el r → CIx rt E el r.ast off (Sem.rhs el r)
  | .none, _, el, _, _ => ci_identity rt E el 0 off
  | .dot dr, hc, el, hel, hs =>
    dot_convE dr hc el hel hs
  | .bracket e, hc, el, hel, hs =>
    expr_convE e hc el hel hs
theorem dot_convE : ∀ dr : DotRhs, Sem.dotCore dr = true → ∀ el : Val, el.isJson = true →
    SliceSafe.dot el dr → CIx rt E el dr.ast off (Sem.dot el dr)
  | .mlist es, hc, el, hel, hs =>
    ci_multiList rt E (fun hn => exprs_convE es hc el hel (hs hn))
  | .expr e, hc, el, hel, hs =>
    expr_convE e hc el hel hs
theorem expr_convE : ∀ e : Expr, Sem.exprCore e = true → ∀ d : Val, d.isJson = true →
    SliceSafe.expr d e → CIx rt E d e.ast off (Sem.expr d e)
  | .mk h ls, hc, d, hd, hs => by
    simp only [Sem.exprCore, Bool.and_eq_true] at hc; simp only [SliceSafe.expr] at hs
    simp only [Expr.ast]
    refine (leds_convE ls hc.2 h.ast d (Sem.nud d h) hd (nud_convE h hc.1 d hd hs.1)
      (fun lv hlv => ⟨nud_json h hc.1 d hd lv hlv, hs.2 lv hlv⟩)).congr rt E off ?_
    simp only [Sem.expr]
    cases Sem.nud d h <;> rfl
theorem leds_convE : ∀ ls : List Led, Sem.ledsCore ls = true → ∀ (left : Ast) (d : Val)
    (sl : Option Val), d.isJson = true → CIx rt E d left off sl →
    (∀ lv, sl = some lv → lv.isJson = true ∧ SliceSafe.leds d lv ls) →
    CIx rt E d (ledsAst left ls) off (sl.bind fun lv => Sem.leds d lv ls)
  | [], _, left, d, sl, hd, hl, _ => by
    simp only [ledsAst]
    refine hl.congr rt E off ?_
    cases sl <;> simp [Sem.leds]
  | l :: ls, hc, left, d, sl, hd, hl, hs => by
    simp only [Sem.ledsCore, Bool.and_eq_true] at hc
    simp only [ledsAst]
    have h1 := led_convE l hc.1 left d sl hd hl (fun lv hlv => ⟨(hs lv hlv).1, (hs lv hlv).2.1⟩)
    refine (leds_convE ls hc.2 (l.ast left) d _ hd h1 ?_).congr rt E off ?_
    · intro v hv
      cases sl with
      | none => simp at hv
      | some lv =>
        simp only [Option.bind_some] at hv
        exact ⟨led_json l hc.1 d lv hd (hs lv rfl).1 v hv, (hs lv rfl).2.2 v hv⟩
    · cases sl with
      | none => rfl
      | some lv => simp only [Option.bind_some, Sem.leds]; cases Sem.led d lv l <;> rfl
theorem exprs_convE : ∀ es : List Expr, Sem.exprsCore es = true → ∀ d : Val, d.isJson = true →
    SliceSafe.exprs d es → CAx rt E d (exprsAst es) off (Sem.exprs d es)
  | [], _, d, _, _ => ca_nil rt E d off
  | e :: es, hc, d, hd, hs => by
    simp only [Sem.exprsCore, Bool.and_eq_true] at hc; simp only [SliceSafe.exprs] at hs
    simp only [exprsAst]
    refine (ca_cons rt E (expr_convE e hc.1 d hd hs.1) (fun _ _ => exprs_convE es hc.2 d hd hs.2)).congr rt E off ?_
    simp only [Sem.exprs]
    cases Sem.expr d e <;> rfl
theorem kvs_convE : ∀ kvs : List (Bool × String × Expr), Sem.kvsCore kvs = true → ∀ d : Val,
    d.isJson = true → SliceSafe.kvs d kvs → ∀ acc : List (String × Val),
    CKx rt E d (kvsAst kvs) acc off (Sem.kvs' d kvs acc)
  | [], _, d, _, _, acc => ck_nil rt E d acc off
  | (_, k, e) :: r, hc, d, hd, hs, acc => by
    simp only [Sem.kvsCore, Bool.and_eq_true] at hc; simp only [SliceSafe.kvs] at hs
    simp only [kvsAst]
    refine (ck_cons rt E (g := fun v => Sem.kvs' d r (insertKV k v acc)) (expr_convE e hc.1 d hd hs.1)
      (fun v _ => kvs_convE r hc.2 d hd hs.2 _)).congr rt E off ?_
    simp only [Sem.kvs']
    cases Sem.expr d e <;> rfl
end
end conv


/-! ### the core language: the error is the invalid-slice error -/
section core
variable (rt : Registry) (off : Nat)

theorem invalidSlice_mem (o : Nat) : InvalidSlice (.runtime .invalidSlice o) := ⟨o, rfl⟩

theorem nud_conv : ∀ h : Nud, Sem.nudCore h = true → ∀ d : Val, d.isJson = true →
    SliceSafe.nud d h → CI rt d h.ast off (Sem.nud d h) :=
  fun h hc d hd hs => (ci_iff rt).mpr (nud_convE rt _ invalidSlice_mem off h hc d hd hs)
theorem led_conv : ∀ l : Led, Sem.ledCore l = true → ∀ (left : Ast) (d : Val) (sl : Option Val),
    d.isJson = true → CI rt d left off sl →
    (∀ lv, sl = some lv → lv.isJson = true ∧ SliceSafe.led d lv l) →
    CI rt d (l.ast left) off (sl.bind fun lv => Sem.led d lv l) :=
  fun l hc left d sl hd hl hs =>
    (ci_iff rt).mpr (led_convE rt _ invalidSlice_mem off l hc left d sl hd ((ci_iff rt).mp hl) hs)
theorem rhs_conv : ∀ r : Rhs, Sem.rhsCore r = true → ∀ el : Val, el.isJson = true →
    SliceSafe.rhs el r → CI rt el r.ast off (Sem.rhs el r) :=
  fun r hc el hel hs => (ci_iff rt).mpr (rhs_convE rt _ invalidSlice_mem off r hc el hel hs)
theorem dot_conv : ∀ dr : DotRhs, Sem.dotCore dr = true → ∀ el : Val, el.isJson = true →
    SliceSafe.dot el dr → CI rt el dr.ast off (Sem.dot el dr) :=
  fun dr hc el hel hs => (ci_iff rt).mpr (dot_convE rt _ invalidSlice_mem off dr hc el hel hs)
theorem expr_conv : ∀ e : Expr, Sem.exprCore e = true → ∀ d : Val, d.isJson = true →
    SliceSafe.expr d e → CI rt d e.ast off (Sem.expr d e) :=
  fun e hc d hd hs => (ci_iff rt).mpr (expr_convE rt _ invalidSlice_mem off e hc d hd hs)
theorem leds_conv : ∀ ls : List Led, Sem.ledsCore ls = true → ∀ (left : Ast) (d : Val)
    (sl : Option Val), d.isJson = true → CI rt d left off sl →
    (∀ lv, sl = some lv → lv.isJson = true ∧ SliceSafe.leds d lv ls) →
    CI rt d (ledsAst left ls) off (sl.bind fun lv => Sem.leds d lv ls) :=
  fun ls hc left d sl hd hl hs =>
    (ci_iff rt).mpr (leds_convE rt _ invalidSlice_mem off ls hc left d sl hd ((ci_iff rt).mp hl) hs)
theorem exprs_conv : ∀ es : List Expr, Sem.exprsCore es = true → ∀ d : Val, d.isJson = true →
    SliceSafe.exprs d es → CA rt d (exprsAst es) off (Sem.exprs d es) :=
  fun es hc d hd hs => (ca_iff rt).mpr (exprs_convE rt _ invalidSlice_mem off es hc d hd hs)
theorem kvs_conv : ∀ kvs : List (Bool × String × Expr), Sem.kvsCore kvs = true → ∀ d : Val,
    d.isJson = true → SliceSafe.kvs d kvs → ∀ acc : List (String × Val),
    CK rt d (kvsAst kvs) acc off (Sem.kvs' d kvs acc) :=
  fun kvs hc d hd hs acc => (ck_iff rt).mpr (kvs_convE rt _ invalidSlice_mem off kvs hc d hd hs acc)
end core

/-- **Conformance, exact side condition.**  For every core expression, every tree equal to the
expression's tree up to offsets, every JSON document and initial offset: if every array a slice
is applied to while evaluating `e` on `d` has at most `i32::MAX` elements (`SliceSafe`), then
with enough fuel the interpreter returns what the semantics says. -/
theorem C01_conformance_safe (rt : Registry) (e : Expr) (hc : Sem.exprCore e = true) (a : Ast)
    (ha : a.strip = e.ast) (d : Val) (hd : d.isJson = true) (hs : SliceSafe.expr d e) (off : Nat) :
    ∃ n, ∀ fuel, n ≤ fuel → resultOf (interp rt fuel d a off) = some (Sem.expr d e) := by
  obtain ⟨n, hn⟩ := expr_conv rt off e hc d hd hs
  refine ⟨n, fun fuel hf => ?_⟩
  have h1 := hn fuel hf
  have h2 := (strip_same rt fuel).1 a d off (by rw [ha]; exact expr_plain e hc)
  rw [ha] at h2
  cases hv : Sem.expr d e with
  | none =>
    rw [hv] at h1
    obtain ⟨o, ho⟩ := h1
    rcases h2 with h2 | ⟨o1, o2, h2, _⟩
    · rw [h2, ho]; rfl
    · rw [h2]; rfl
  | some v =>
    rw [hv] at h1
    simp only [Agrees] at h1
    rcases h2 with h2 | ⟨o1, o2, _, h3⟩
    · rw [h2, h1]; rfl
    · rw [h1] at h3; cases h3

/-- **Conformance, general width form.**  `b` bounds the member count of every array and object
in the document; `e.wb b` then bounds every array that can arise during evaluation. -/
theorem C01_conformance_within (rt : Registry) (e : Expr) (hc : Sem.exprCore e = true) (a : Ast)
    (ha : a.strip = e.ast) (d : Val) (hd : d.isJson = true) (b : Nat) (hs : d.Within b)
    (hb : e.wb b ≤ 2147483647) (off : Nat) :
    ∃ n, ∀ fuel, n ≤ fuel → resultOf (interp rt fuel d a off) = some (Sem.expr d e) :=
  C01_conformance_safe rt e hc a ha d hd (expr_w e b d hs hb).1 off

/-- **C01 conformance.**  For every core expression `e` (no calls, no expression references, JSON
literals), every tree `a` equal to `e`'s tree up to offsets, every JSON document `d` and initial
`ctx.offset`: provided the computable width bound `e.wb d.width` does not exceed `i32::MAX`, the
interpreter, given enough fuel, returns exactly the value the semantics assigns — or the
invalid-slice error exactly when the semantics says so — and never any other error. -/
theorem C01_conformance (rt : Registry) (e : Expr) (hc : Sem.exprCore e = true) (a : Ast)
    (ha : a.strip = e.ast) (d : Val) (hd : d.isJson = true)
    (hb : e.wb d.width ≤ 2147483647) (off : Nat) :
    ∃ n, ∀ fuel, n ≤ fuel → resultOf (interp rt fuel d a off) = some (Sem.expr d e) :=
  C01_conformance_within rt e hc a ha d hd d.width d.within_width hb off

/-- **Conformance for flatten-free expressions** under a condition on sizes alone: the document
and every literal are hereditarily `Small` (arrays *and objects* have at most `i32::MAX`
members) and multi-selects have at most `i32::MAX` members. -/
theorem C01_conformance_flattenFree (rt : Registry) (e : Expr) (hc : Sem.exprCore e = true)
    (a : Ast) (ha : a.strip = e.ast) (d : Val) (hd : d.isJson = true) (hs : d.Small)
    (hlit : e.Small) (hnf : e.flattenFree = true) (off : Nat) :
    ∃ n, ∀ fuel, n ≤ fuel → resultOf (interp rt fuel d a off) = some (Sem.expr d e) :=
  C01_conformance_within rt e hc a ha d hd CAP hs (by rw [Expr.wb_cap e hlit hnf]; exact Nat.le_refl _) off

/-! ### non-vacuity -/

/-- `a[] | [::2]` on `{"a": [[1],[2,3]]}`: width 2, bound `max 2 (2*2) = 4` -/
example : (Expr.mk (.field "a") [.flattenL .none, .pipe (.mk (.slice ⟨none, none, some (some 2)⟩ .none) [])]).wb
    (Val.obj [("a", .arr [.arr [.num (.pos 1)], .arr [.num (.pos 2), .num (.pos 3)]])]).width = 4 := by
  decide

example (rt : Registry) (off : Nat) : ∃ n, ∀ fuel, n ≤ fuel →
    resultOf (interp rt fuel (Val.obj [("a", .arr [.arr [.num (.pos 1)], .arr [.num (.pos 2), .num (.pos 3)]])])
      (.subexpr 7 (.projection 1 (.flatten 1 (.field 0 "a")) (.identity 3))
        (.projection 6 (.slice 6 none none 2) (.identity 11))) off) =
    some (some (.arr [.num (.pos 1), .num (.pos 3)])) := by
  have h := C01_conformance rt
    (Expr.mk (.field "a") [.flattenL .none, .pipe (.mk (.slice ⟨none, none, some (some 2)⟩ .none) [])])
    (by decide)
    (.subexpr 7 (.projection 1 (.flatten 1 (.field 0 "a")) (.identity 3))
        (.projection 6 (.slice 6 none none 2) (.identity 11)))
    (by rfl)
    (Val.obj [("a", .arr [.arr [.num (.pos 1)], .arr [.num (.pos 2), .num (.pos 3)]])])
    (by decide) (by decide) off
  have hsem : Sem.expr (Val.obj [("a", .arr [.arr [.num (.pos 1)], .arr [.num (.pos 2), .num (.pos 3)]])])
      (Expr.mk (.field "a") [.flattenL .none, .pipe (.mk (.slice ⟨none, none, some (some 2)⟩ .none) [])]) =
      some (.arr [.num (.pos 1), .num (.pos 3)]) := by rfl
  rw [hsem] at h
  exact h

end JmesVerif

#print axioms JmesVerif.C01_conformance_safe
#print axioms JmesVerif.C01_conformance_within
#print axioms JmesVerif.C01_conformance_flattenFree
#print axioms JmesVerif.C01_conformance
