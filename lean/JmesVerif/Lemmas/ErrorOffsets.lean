import JmesVerif.Lemmas.InterpJson
/-!
# Where runtime errors point (C12, global invariant) — definitions

`Ast.nodesD a` lists the `Function` nodes (`(.call name, offset)`) and `Slice` nodes
(`(.slice, offset)`) of a tree **descending into literal values** (a `Variable::Expref` held inside a
literal is a tree as well); `Val.exNodes v` does the same for every expression reference nested
anywhere in a value.  `Ast.callOffsets` / `Ast.sliceOffsets` (`Lemmas/Positions.lean`) do not
descend into literals; the two agree on trees whose literals are JSON (`Ast.LitJson`), which is what
the parser builds.
-/
namespace JmesVerif

/-- what an error can point at: a slice node, or a call node of a given function name -/
inductive OKind
  | slice
  | call (name : String)
  deriving DecidableEq, Repr

mutual
def Val.exNodes : Val → List (OKind × Nat)
  | .arr xs => exNodesVs xs
  | .obj kvs => exNodesKVs kvs
  | .expref a => Ast.nodesD a
  | _ => []
def exNodesVs : List Val → List (OKind × Nat)
  | [] => []
  | v :: vs => Val.exNodes v ++ exNodesVs vs
def exNodesKVs : List (String × Val) → List (OKind × Nat)
  | [] => []
  | (_, v) :: r => Val.exNodes v ++ exNodesKVs r
def Ast.nodesD : Ast → List (OKind × Nat)
  | .comparison _ _ l r => Ast.nodesD l ++ Ast.nodesD r
  | .condition _ p t => Ast.nodesD p ++ Ast.nodesD t
  | .identity _ => []
  | .expref _ a => Ast.nodesD a
  | .flatten _ a => Ast.nodesD a
  | .function o n args => (.call n, o) :: nodesDL args
  | .field _ _ => []
  | .index _ _ => []
  | .literal _ v => Val.exNodes v
  | .multiList _ es => nodesDL es
  | .multiHash _ kvs => nodesDK kvs
  | .not _ a => Ast.nodesD a
  | .projection _ l r => Ast.nodesD l ++ Ast.nodesD r
  | .objectValues _ a => Ast.nodesD a
  | .and _ l r => Ast.nodesD l ++ Ast.nodesD r
  | .or _ l r => Ast.nodesD l ++ Ast.nodesD r
  | .slice o _ _ _ => [(.slice, o)]
  | .subexpr _ l r => Ast.nodesD l ++ Ast.nodesD r
def nodesDL : List Ast → List (OKind × Nat)
  | [] => []
  | a :: as => Ast.nodesD a ++ nodesDL as
def nodesDK : List (String × Ast) → List (OKind × Nat)
  | [] => []
  | (_, a) :: r => Ast.nodesD a ++ nodesDK r
end

theorem forall_exNodesVs (Q : OKind × Nat → Prop) (xs : List Val) :
    (∀ o ∈ exNodesVs xs, Q o) ↔ ∀ x ∈ xs, ∀ o ∈ x.exNodes, Q o := by
  induction xs with
  | nil => simp [exNodesVs]
  | cons x xs ih => rw [exNodesVs, List.forall_mem_append, List.forall_mem_cons, ih]
theorem forall_exNodesKVs (Q : OKind × Nat → Prop) (kvs : List (String × Val)) :
    (∀ o ∈ exNodesKVs kvs, Q o) ↔ ∀ p ∈ kvs, ∀ o ∈ p.2.exNodes, Q o := by
  induction kvs with
  | nil => simp [exNodesKVs]
  | cons p kvs ih =>
    obtain ⟨s, v⟩ := p
    rw [exNodesKVs, List.forall_mem_append, List.forall_mem_cons, ih]
theorem forall_nodesDL (Q : OKind × Nat → Prop) (as : List Ast) :
    (∀ o ∈ nodesDL as, Q o) ↔ ∀ a ∈ as, ∀ o ∈ a.nodesD, Q o := by
  induction as with
  | nil => simp [nodesDL]
  | cons a as ih => rw [nodesDL, List.forall_mem_append, List.forall_mem_cons, ih]
theorem forall_nodesDK (Q : OKind × Nat → Prop) (as : List (String × Ast)) :
    (∀ o ∈ nodesDK as, Q o) ↔ ∀ p ∈ as, ∀ o ∈ p.2.nodesD, Q o := by
  induction as with
  | nil => simp [nodesDK]
  | cons p as ih =>
    obtain ⟨s, a⟩ := p
    rw [nodesDK, List.forall_mem_append, List.forall_mem_cons, ih]

/-- `true`: the error is reported at a call (everything but `InvalidSlice`) -/
def RtErr.isCall : RtErr → Bool
  | .invalidSlice => false
  | _ => true

/-- the three builtins that check the type of what an expression reference returns -/
def Builtin.isBy (b : Builtin) : Bool := b == .sortBy || b == .maxBy || b == .minBy

section
variable (P : OKind → Nat → Prop) (rt : Registry)

/-- every call / slice node of the tree (literals included) satisfies `P` -/
def AOk (a : Ast) : Prop := ∀ p ∈ a.nodesD, P p.1 p.2
/-- the same for every expression reference nested in a value -/
def VOk (v : Val) : Prop := ∀ p ∈ v.exNodes, P p.1 p.2

/-- the offset is that of an allowed call node whose name is bound to `f` -/
def CallAt (f : Fn) (o : Nat) : Prop := ∃ n, P (.call n) o ∧ rt.get n = some f

/-- what an error may be: a runtime error located at an allowed node of the matching kind — a slice
node for `InvalidSlice`; a call of that unregistered name for `UnknownFunction`; a call of
`sort_by` / `max_by` / `min_by` for `InvalidReturnType`; a call of a registered function for the
arity and type errors —, one of the three `numOfF64` messages, a fault of the slice loop (only when
some slice node is around; by `C12_slice_fault_needs_huge_array` only on an array longer than
`i32::MAX`), or out of fuel -/
def EOk : EvalErr → Prop
  | .runtime .invalidSlice o => P .slice o
  | .runtime (.unknownFunction n) o => P (.call n) o ∧ rt.get n = none
  | .runtime (.invalidReturnType _ _ _ _) o => ∃ b, CallAt P rt (.builtin b) o ∧ b.isBy = true
  | .runtime (.tooMany _ _) o => ∃ f, CallAt P rt f o
  | .runtime (.notEnough _ _) o => ∃ f, CallAt P rt f o
  | .runtime (.invalidType _ _ _) o => ∃ f, CallAt P rt f o
  | .internal msg => msg ∈ internalMsgs
  | .panic m => m = "slice" ∧ ∃ o, P .slice o
  | .fuel => True

def ROk {α : Type} (Q : α → Prop) : ERes α → Prop
  | .ok (x, _) => Q x
  | .error e => EOk P rt e

@[simp] theorem ROk_ok {α : Type} (Q : α → Prop) (x : α) (o : Nat) : ROk P rt Q (.ok (x, o)) ↔ Q x := Iff.rfl
@[simp] theorem ROk_error {α : Type} (Q : α → Prop) (e : EvalErr) : ROk P rt Q (.error e : ERes α) ↔ EOk P rt e := Iff.rfl
@[simp] theorem EOk_fuel : EOk P rt .fuel := trivial

@[simp] theorem VOk_null : VOk P .null := fun _ h => nomatch h
@[simp] theorem VOk_bool (b) : VOk P (.bool b) := fun _ h => nomatch h
@[simp] theorem VOk_num (b) : VOk P (.num b) := fun _ h => nomatch h
@[simp] theorem VOk_str (b) : VOk P (.str b) := fun _ h => nomatch h
@[simp] theorem VOk_arr (xs : List Val) : VOk P (.arr xs) ↔ ∀ x ∈ xs, VOk P x :=
  forall_exNodesVs _ xs
@[simp] theorem VOk_obj (kvs : List (String × Val)) : VOk P (.obj kvs) ↔ ∀ p ∈ kvs, VOk P p.2 :=
  forall_exNodesKVs _ kvs
@[simp] theorem VOk_expref (a : Ast) : VOk P (.expref a) ↔ AOk P a := Iff.rfl

@[simp] theorem AOk_identity (o) : AOk P (.identity o) := fun _ h => nomatch h
@[simp] theorem AOk_field (o s) : AOk P (.field o s) := fun _ h => nomatch h
@[simp] theorem AOk_index (o s) : AOk P (.index o s) := fun _ h => nomatch h
@[simp] theorem AOk_literal (o v) : AOk P (.literal o v) ↔ VOk P v := Iff.rfl
@[simp] theorem AOk_slice (o a b c) : AOk P (.slice o a b c) ↔ P .slice o := List.forall_mem_singleton
@[simp] theorem AOk_expref (o a) : AOk P (.expref o a) ↔ AOk P a := Iff.rfl
@[simp] theorem AOk_flatten (o a) : AOk P (.flatten o a) ↔ AOk P a := Iff.rfl
@[simp] theorem AOk_not (o a) : AOk P (.not o a) ↔ AOk P a := Iff.rfl
@[simp] theorem AOk_objectValues (o a) : AOk P (.objectValues o a) ↔ AOk P a := Iff.rfl
@[simp] theorem AOk_comparison (o c l r) : AOk P (.comparison o c l r) ↔ AOk P l ∧ AOk P r :=
  List.forall_mem_append
@[simp] theorem AOk_condition (o l r) : AOk P (.condition o l r) ↔ AOk P l ∧ AOk P r :=
  List.forall_mem_append
@[simp] theorem AOk_projection (o l r) : AOk P (.projection o l r) ↔ AOk P l ∧ AOk P r :=
  List.forall_mem_append
@[simp] theorem AOk_and (o l r) : AOk P (.and o l r) ↔ AOk P l ∧ AOk P r := List.forall_mem_append
@[simp] theorem AOk_or (o l r) : AOk P (.or o l r) ↔ AOk P l ∧ AOk P r := List.forall_mem_append
@[simp] theorem AOk_subexpr (o l r) : AOk P (.subexpr o l r) ↔ AOk P l ∧ AOk P r :=
  List.forall_mem_append
@[simp] theorem AOk_multiList (o es) : AOk P (.multiList o es) ↔ ∀ e ∈ es, AOk P e :=
  forall_nodesDL _ es
@[simp] theorem AOk_multiHash (o kvs) : AOk P (.multiHash o kvs) ↔ ∀ p ∈ kvs, AOk P p.2 :=
  forall_nodesDK _ kvs
@[simp] theorem AOk_function (o n args) : AOk P (.function o n args) ↔ P (.call n) o ∧ ∀ e ∈ args, AOk P e :=
  List.forall_mem_cons.trans (and_congr_right' (forall_nodesDL _ args))

theorem VOk_closed : ValClosed (VOk P) :=
  ⟨VOk_null P, VOk_bool P, VOk_num P, VOk_str P, VOk_arr P, VOk_obj P⟩
end

end JmesVerif
