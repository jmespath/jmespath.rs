import JmesVerif.Lemmas.Signature
import JmesVerif.Lemmas.InsertKV
import JmesVerif.Props.C10
/-!
# Functional contracts of the built-in functions

What each builtin of `functions.rs` computes, stated on the model (`Builtin.pure`, `callFn`) for all
arguments its signature accepts; the property theorems of `Props/C02.lean` are read off these.
-/
namespace JmesVerif

/-! ## A. `sort` / `sort_by` are stable ascending permutations -/

/-- the order `sort` uses -/
def vle (a b : Val) : Bool := Val.cmp a b != .gt

/-- all strings, or all numbers whose double image is finite: what the signature
`array[string]|array[number]` accepts (`SameKind`), plus the finiteness `serde_json::Number` guarantees
(`homog_of_strsOrNums`) -/
def Homog (xs : List Val) : Prop :=
  (∀ x ∈ xs, ∃ s, x = .str s) ∨ (∀ x ∈ xs, ∃ n, x = .num n ∧ n.toF64.isFinite = true)

/-- string order is code-point order (`String`'s `compare`) -/
theorem cmp_str (a b : String) : Val.cmp (.str a) (.str b) = compare a b := rfl

/-- values of different types, or of a type other than string/number, compare `Equal` -/
theorem cmp_other (a b : Val) (h : ¬ ((∃ x y, a = .str x ∧ b = .str y) ∨ (∃ x y, a = .num x ∧ b = .num y))) :
    Val.cmp a b = .eq := by
  unfold Val.cmp
  split
  · exact absurd (.inl ⟨_, _, rfl, rfl⟩) h
  · exact absurd (.inr ⟨_, _, rfl, rfl⟩) h
  · rfl

/-- on two strings `vle` is `≤` of `compare` -/
theorem vle_str (x y : String) : vle (.str x) (.str y) = (compare x y).isLE := by
  simp only [vle, Val.cmp]
  cases compare x y <;> rfl

theorem isLE_total (x y : String) : (compare x y).isLE = true ∨ (compare y x).isLE = true := by
  cases h : compare x y
  case gt => exact .inr (Std.OrientedCmp.isLE_of_isGE (by rw [h]; rfl))
  all_goals exact .inl rfl

/-- on two finite numbers `vle` is `≤` on the denoted rationals -/
theorem vle_num (x y : Num) (h : BothFinite x y) :
    vle (.num x) (.num y) = decide (x.toF64.toRat ≤ y.toF64.toRat) := by
  simp only [vle, cmp_num x y h]
  grind

/-- a total preorder on the elements satisfying `S` -/
structure TotalOn {α : Type} (S : α → Prop) (le : α → α → Bool) : Prop where
  total : ∀ a b, S a → S b → le a b = true ∨ le b a = true
  trans : ∀ a b c, S a → S b → S c → le a b = true → le b c = true → le a c = true

/-- `vle` is a total preorder on the members of a homogeneous list (not on all values: values of
different types compare `Equal`) -/
theorem totalOn_vle {xs : List Val} (h : Homog xs) : TotalOn (· ∈ xs) vle := by
  rcases h with h | h
  · refine ⟨fun a b ha hb => ?_, fun a b c ha hb hc => ?_⟩
    · obtain ⟨x, rfl⟩ := h a ha
      obtain ⟨y, rfl⟩ := h b hb
      rw [vle_str, vle_str]
      exact isLE_total x y
    · obtain ⟨x, rfl⟩ := h a ha
      obtain ⟨y, rfl⟩ := h b hb
      obtain ⟨z, rfl⟩ := h c hc
      simp only [vle_str]
      exact Std.TransOrd.isLE_trans
  · refine ⟨fun a b ha hb => ?_, fun a b c ha hb hc => ?_⟩
    · obtain ⟨x, rfl, hx⟩ := h a ha
      obtain ⟨y, rfl, hy⟩ := h b hb
      rw [vle_num x y ⟨hx, hy⟩, vle_num y x ⟨hy, hx⟩]
      simpa using Rat.le_total
    · obtain ⟨x, rfl, hx⟩ := h a ha
      obtain ⟨y, rfl, hy⟩ := h b hb
      obtain ⟨z, rfl, hz⟩ := h c hc
      simp only [vle_num _ _ ⟨hx, hy⟩, vle_num _ _ ⟨hy, hz⟩, vle_num _ _ ⟨hx, hz⟩, decide_eq_true_eq]
      exact Rat.le_trans

/-- `vle` on keys is a total preorder on the members of a list with homogeneous keys -/
theorem totalOn_homog {α : Type} (f : α → Val) (xs : List α) (h : Homog (xs.map f)) :
    TotalOn (· ∈ xs) (fun a b => vle (f a) (f b)) where
  total _ _ ha hb := (totalOn_vle h).total _ _ (List.mem_map_of_mem ha) (List.mem_map_of_mem hb)
  trans _ _ _ ha hb hc := (totalOn_vle h).trans _ _ _ (List.mem_map_of_mem ha) (List.mem_map_of_mem hb)
    (List.mem_map_of_mem hc)

open Classical in
/-- a merge sort by a total preorder on the members of the list is ascending and stable.  (`List.mergeSort`
asks for an order that is total and transitive on the whole type; putting the non-members below all
members extends `le` to one without changing the sort.) -/
theorem TotalOn.mergeSort {α : Type} {xs : List α} {le : α → α → Bool} (h : TotalOn (· ∈ xs) le) :
    (xs.mergeSort le).Pairwise (fun a b => le a b = true) ∧
      ∀ a b, le a b = true → [a, b].Sublist xs → [a, b].Sublist (xs.mergeSort le) := by
  let leT : α → α → Bool := fun a b => decide (a ∉ xs) || (decide (b ∈ xs) && le a b)
  have hm : ∀ a ∈ xs, ∀ b ∈ xs, le a b = leT a b := fun a ha b hb => by simp [leT, ha, hb]
  have heq : xs.mergeSort le = xs.mergeSort leT := by simpa using List.map_mergeSort (f := id) hm
  have tr : ∀ a b c, leT a b = true → leT b c = true → leT a c = true := by
    intro a b c h1 h2
    simp only [leT, Bool.or_eq_true, Bool.and_eq_true, decide_eq_true_eq] at *
    rcases h1 with h1 | ⟨hb, h1⟩
    · exact .inl h1
    · rcases h2 with h2 | ⟨hc, h2⟩
      · exact absurd hb h2
      · by_cases ha : a ∈ xs
        · exact .inr ⟨hc, h.trans a b c ha hb hc h1 h2⟩
        · exact .inl ha
  have tot : ∀ a b, (leT a b || leT b a) = true := by
    intro a b
    simp only [leT, Bool.or_eq_true, Bool.and_eq_true, decide_eq_true_eq]
    by_cases ha : a ∈ xs
    · by_cases hb : b ∈ xs
      · exact (h.total a b ha hb).imp (fun h' => .inr ⟨hb, h'⟩) (fun h' => .inr ⟨ha, h'⟩)
      · exact .inr (.inl hb)
    · exact .inl (.inl ha)
  rw [heq]
  refine ⟨(List.pairwise_mergeSort tr tot xs).imp_of_mem fun ha hb hab => ?_, fun a b hab hs => ?_⟩
  · rw [List.mem_mergeSort] at ha hb
    rwa [hm _ ha _ hb]
  · exact List.pair_sublist_mergeSort tr tot
      (by rwa [← hm a (hs.subset (by simp)) b (hs.subset (by simp))]) hs

theorem sortKey_perm {α : Type} (f : α → Val) (xs : List α) :
    (xs.mergeSort (fun a b => vle (f a) (f b))).Perm xs :=
  List.mergeSort_perm _ _

theorem sortKey_sorted {α : Type} (f : α → Val) (xs : List α) (h : Homog (xs.map f)) :
    (xs.mergeSort (fun a b => vle (f a) (f b))).Pairwise (fun a b => vle (f a) (f b) = true) :=
  (totalOn_homog f xs h).mergeSort.1

theorem sortKey_stable {α : Type} (f : α → Val) (xs : List α) (h : Homog (xs.map f)) (a b : α)
    (hab : vle (f a) (f b) = true) (hs : [a, b].Sublist xs) :
    [a, b].Sublist (xs.mergeSort (fun a b => vle (f a) (f b))) :=
  (totalOn_homog f xs h).mergeSort.2 a b hab hs

/-! ## B. `max` / `min` / `max_by` / `min_by` -/

/-- a left fold that replaces the candidate exactly when `P cand v`: the result splits the list into
a prefix of elements all `P`-related to it and a suffix of elements it is not `P`-related to -/
theorem foldl_replace_spec {α : Type} (S : α → Prop) (P : α → α → Bool) (step : α → α → α)
    (hstep : ∀ a v, S a → S v → step a v = if P a v then v else a)
    (T1 : ∀ a b c, S a → S b → S c → P a b = true → P b c = true → P a c = true)
    (T2 : ∀ a x y, S a → S x → S y → P a x = false → P a y = true → P x y = true) :
    ∀ (rest pre : List α) (acc : α) (suf : List α), (∀ x ∈ pre ++ acc :: suf ++ rest, S x) →
      (∀ x ∈ pre, P x acc = true) → (∀ x ∈ suf, P acc x = false) →
      ∃ pre' suf', pre ++ acc :: suf ++ rest = pre' ++ rest.foldl step acc :: suf' ∧
        (∀ x ∈ pre', P x (rest.foldl step acc) = true) ∧ (∀ x ∈ suf', P (rest.foldl step acc) x = false) := by
  intro rest
  induction rest with
  | nil =>
    intro pre acc suf _ h1 h2
    exact ⟨pre, suf, by simp, h1, h2⟩
  | cons y rest ih =>
    intro pre acc suf hS h1 h2
    have hSacc : S acc := hS acc (by simp)
    have hSy : S y := hS y (by simp)
    simp only [List.foldl_cons, hstep acc y hSacc hSy]
    by_cases hp : P acc y = true
    · simp only [hp, if_true]
      -- `y` replaces `acc`: the old prefix stays related to `y` by `T1`, the old suffix joins it by `T2`
      have := ih (pre ++ acc :: suf) y [] (by simpa using hS)
        (by
          intro x hx
          simp only [List.mem_append, List.mem_cons] at hx
          rcases hx with hx | rfl | hx
          · exact T1 x acc y (hS x (by simp [hx])) hSacc hSy (h1 x hx) hp
          · exact hp
          · exact T2 acc x y hSacc (hS x (by simp [hx])) hSy (h2 x hx) hp)
        (by simp)
      simpa using this
    · simp only [hp]
      have := ih pre acc (suf ++ [y]) (by simpa using hS) h1
        (by
          intro x hx
          simp only [List.mem_append, List.mem_singleton] at hx
          rcases hx with hx | rfl
          · exact h2 x hx
          · simpa using hp)
      simpa using this

theorem TotalOn.refl {α : Type} {S : α → Prop} {le : α → α → Bool} (h : TotalOn S le) (a : α) (ha : S a) :
    le a a = true := by
  rcases h.total a a ha ha with h | h <;> exact h

theorem TotalOn.of_not {α : Type} {S : α → Prop} {le : α → α → Bool} (h : TotalOn S le) {a b : α}
    (ha : S a) (hb : S b) (hn : le a b = false) : le b a = true := by
  rcases h.total a b ha hb with h | h
  · simp [h] at hn
  · exact h

/-- "last maximum": replace when `cand ≤ v` -/
theorem foldl_lastMax {α : Type} {S : α → Prop} {le : α → α → Bool} (h : TotalOn S le)
    (step : α → α → α) (hstep : ∀ a v, S a → S v → step a v = if le a v then v else a)
    (x : α) (rest : List α) (hS : ∀ y ∈ x :: rest, S y) :
    ∃ pre suf, x :: rest = pre ++ rest.foldl step x :: suf ∧
      (∀ y ∈ pre, le y (rest.foldl step x) = true) ∧ (∀ y ∈ suf, le (rest.foldl step x) y = false) ∧
      ∀ y ∈ x :: rest, le y (rest.foldl step x) = true := by
  have := foldl_replace_spec S le step hstep h.trans
    (fun a x y ha hx hy h1 h2 => h.trans x a y hx ha hy (h.of_not ha hx h1) h2)
    rest [] x [] (by simpa using hS) (by simp) (by simp)
  obtain ⟨pre, suf, he, h1, h2⟩ : ∃ pre suf, x :: rest = pre ++ rest.foldl step x :: suf ∧ _ ∧ _ := by
    simpa using this
  have hr : S (rest.foldl step x) := hS _ (by rw [he]; simp)
  refine ⟨pre, suf, he, h1, h2, fun y hy => ?_⟩
  have hSy := hS y hy
  rw [he] at hy
  rcases List.mem_append.1 hy with hy | hy
  · exact h1 y hy
  · rcases List.mem_cons.1 hy with rfl | hy
    · exact h.refl _ hr
    · exact h.of_not hr hSy (h2 y hy)

/-- "first minimum": replace when `¬ cand ≤ v` (strictly smaller) -/
theorem foldl_firstMin {α : Type} {S : α → Prop} {le : α → α → Bool} (h : TotalOn S le)
    (step : α → α → α) (hstep : ∀ a v, S a → S v → step a v = if le a v then a else v)
    (x : α) (rest : List α) (hS : ∀ y ∈ x :: rest, S y) :
    ∃ pre suf, x :: rest = pre ++ rest.foldl step x :: suf ∧
      (∀ y ∈ pre, le y (rest.foldl step x) = false) ∧ (∀ y ∈ suf, le (rest.foldl step x) y = true) ∧
      ∀ y ∈ x :: rest, le (rest.foldl step x) y = true := by
  have := foldl_replace_spec S (fun a b => !le a b) step
    (by intro a v ha hv; rw [hstep a v ha hv]; cases le a v <;> simp)
    (by
      intro a b c ha hb hc h1 h2
      simp only [Bool.not_eq_eq_eq_not, Bool.not_true] at *
      exact Bool.eq_false_iff.2 fun hac =>
        Bool.eq_false_iff.1 h1 (h.trans a c b ha hc hb hac (h.of_not hb hc h2)))
    (by
      intro a x y ha hx hy h1 h2
      simp only [Bool.not_eq_eq_eq_not, Bool.not_true, Bool.not_false] at *
      exact Bool.eq_false_iff.2 fun hxy => Bool.eq_false_iff.1 h2 (h.trans a x y ha hx hy h1 hxy))
    rest [] x [] (by simpa using hS) (by simp) (by simp)
  obtain ⟨pre, suf, he, h1, h2⟩ : ∃ pre suf, x :: rest = pre ++ rest.foldl step x :: suf ∧ _ ∧ _ := by
    simpa using this
  have hr : S (rest.foldl step x) := hS _ (by rw [he]; simp)
  refine ⟨pre, suf, he, h1, h2, fun y hy => ?_⟩
  have hSy := hS y hy
  rw [he] at hy
  rcases List.mem_append.1 hy with hy | hy
  · exact h.of_not hSy hr (h1 y hy)
  · rcases List.mem_cons.1 hy with rfl | hy
    · exact h.refl _ hr
    · exact h2 y hy

theorem TotalOn.swap {α : Type} {S : α → Prop} {le : α → α → Bool} (h : TotalOn S le) :
    TotalOn S (fun a b => le b a) where
  total a b ha hb := (h.total a b ha hb).symm
  trans a b c ha hb hc h1 h2 := h.trans c b a hc hb ha h2 h1

/-- on the members of a homogeneous list, `a < b` iff `b > a` -/
theorem cmp_lt_iff_gt {xs : List Val} (h : Homog xs) {a b : Val} (ha : a ∈ xs) (hb : b ∈ xs) :
    Val.cmp a b = .lt ↔ Val.cmp b a = .gt := by
  rcases h with h | h
  · obtain ⟨x, rfl⟩ := h a ha
    obtain ⟨y, rfl⟩ := h b hb
    simp only [cmp_str]
    exact Std.OrientedCmp.gt_iff_lt.symm
  · obtain ⟨x, rfl, hx⟩ := h a ha
    obtain ⟨y, rfl, hy⟩ := h b hb
    rw [cmp_num x y ⟨hx, hy⟩, cmp_num y x ⟨hy, hx⟩]
    grind

theorem vle_false_iff (a b : Val) : vle a b = false ↔ Val.cmp a b = .gt := by
  simp [vle]

/-- **`max`** returns an element of the array that is `≥` every element; on ties the *last* one
(every later element is strictly smaller) -/
theorem foldMax_spec (xs : List Val) (h : Homog xs) (v : Val) (hv : foldMax xs = some v) :
    v ∈ xs ∧ (∀ x ∈ xs, vle x v = true) ∧
      ∃ pre suf, xs = pre ++ v :: suf ∧ ∀ x ∈ suf, Val.cmp v x = .gt := by
  cases xs with
  | nil => simp [foldMax] at hv
  | cons x rest =>
    simp only [foldMax, Option.some.injEq] at hv
    have T := totalOn_vle h
    obtain ⟨pre, suf, he, -, h2, hall⟩ := foldl_lastMax T
      (fun acc v => if Val.cmp acc v == .gt then acc else v)
      (by intro a v _ _; by_cases hc : Val.cmp a v = .gt <;> simp [vle, hc]) x rest (fun _ hy => hy)
    rw [hv] at he h2 hall
    exact ⟨by rw [he]; simp, hall, pre, suf, he, fun y hy => (vle_false_iff _ _).1 (h2 y hy)⟩

/-- **`min`** returns an element of the array that is `≤` every element; on ties the *first* one
(every earlier element is strictly greater) -/
theorem foldMin_spec (xs : List Val) (h : Homog xs) (v : Val) (hv : foldMin xs = some v) :
    v ∈ xs ∧ (∀ x ∈ xs, vle v x = true) ∧
      ∃ pre suf, xs = pre ++ v :: suf ∧ ∀ x ∈ pre, Val.cmp x v = .gt := by
  cases xs with
  | nil => simp [foldMin] at hv
  | cons x rest =>
    simp only [foldMin, Option.some.injEq] at hv
    have T := totalOn_vle h
    obtain ⟨pre, suf, he, h1, -, hall⟩ := foldl_firstMin T
      (fun acc v => if Val.cmp acc v == .gt then v else acc)
      (by intro a v _ _; by_cases hc : Val.cmp a v = .gt <;> simp [vle, hc]) x rest (fun _ hy => hy)
    rw [hv] at he h1 hall
    exact ⟨by rw [he]; simp, hall, pre, suf, he, fun y hy => (vle_false_iff _ _).1 (h1 y hy)⟩

theorem max_empty : Builtin.pure .max [.arr []] = .ok .null := rfl
theorem min_empty : Builtin.pure .min [.arr []] = .ok .null := rfl

/-- **`max_by`** picks the *first* pair with the greatest key: every earlier key is strictly
smaller, every later key is `≤` -/
theorem pickMax_spec (x k0 : Val) (rest : List (Val × Val))
    (h : Homog (((x, k0) :: rest).map (·.2))) :
    ∃ pre suf, (x, k0) :: rest = pre ++ pickExtreme true x k0 rest :: suf ∧
      (∀ q ∈ pre, Val.cmp (pickExtreme true x k0 rest).2 q.2 = .gt) ∧
      (∀ q ∈ suf, vle q.2 (pickExtreme true x k0 rest).2 = true) ∧
      ∀ q ∈ (x, k0) :: rest, vle q.2 (pickExtreme true x k0 rest).2 = true := by
  -- the first maximum is the first minimum of the converse order
  have T := (totalOn_homog (·.2) ((x, k0) :: rest) h).swap
  obtain ⟨pre, suf, he, h1, h2, hall⟩ := foldl_firstMin T
    (fun cand vk => if true then (if Val.cmp vk.2 cand.2 == .gt then vk else cand)
      else (if Val.cmp vk.2 cand.2 == .lt then vk else cand))
    (by intro a v _ _; simp only [vle, if_true]; by_cases hc : Val.cmp v.2 a.2 = .gt <;> simp [hc]) (x, k0) rest (fun _ hy => hy)
  exact ⟨pre, suf, he, fun q hq => (vle_false_iff _ _).1 (h1 q hq), h2, hall⟩

/-- **`min_by`** picks the *first* pair with the least key: every earlier key is strictly
greater, every later key is `≥` -/
theorem pickMin_spec (x k0 : Val) (rest : List (Val × Val))
    (h : Homog (((x, k0) :: rest).map (·.2))) :
    ∃ pre suf, (x, k0) :: rest = pre ++ pickExtreme false x k0 rest :: suf ∧
      (∀ q ∈ pre, Val.cmp q.2 (pickExtreme false x k0 rest).2 = .gt) ∧
      (∀ q ∈ suf, vle (pickExtreme false x k0 rest).2 q.2 = true) ∧
      ∀ q ∈ (x, k0) :: rest, vle (pickExtreme false x k0 rest).2 q.2 = true := by
  have T := totalOn_homog (·.2) ((x, k0) :: rest) h
  obtain ⟨pre, suf, he, h1, h2, hall⟩ := foldl_firstMin T
    (fun cand vk => if false then (if Val.cmp vk.2 cand.2 == .gt then vk else cand)
      else (if Val.cmp vk.2 cand.2 == .lt then vk else cand))
    (by
      intro a v ha hv
      have := cmp_lt_iff_gt h (List.mem_map_of_mem (f := (·.2)) hv) (List.mem_map_of_mem (f := (·.2)) ha)
      simp only [vle, Bool.false_eq_true, if_false]
      by_cases hc : Val.cmp a.2 v.2 = .gt
      · simp [hc, this.2 hc]
      · have hc' : ¬ Val.cmp v.2 a.2 = .lt := fun h => hc (this.1 h)
        simp [hc, hc'])
    (x, k0) rest (fun _ hy => hy)
  exact ⟨pre, suf, he, fun q hq => (vle_false_iff _ _).1 (h1 q hq), h2, hall⟩

theorem pickExtreme_mem (isMax : Bool) (x k0 : Val) (rest : List (Val × Val)) :
    pickExtreme isMax x k0 rest ∈ (x, k0) :: rest := by
  refine foldl_pick_mem _ (fun c y => ?_) rest (x, k0)
  cases isMax <;> simp only [Bool.false_eq_true, if_false, if_true] <;> split <;> simp

theorem byExtreme_nil (rt : Registry) (fuel : Nat) (isMax : Bool) (a : Ast) (off : Nat) :
    byExtreme rt (fuel + 1) isMax [] a off = .ok (.null, off) := by
  simp [byExtreme]

/-- one successful step of the key loop -/
theorem keysTyped_ok_cons {rt : Registry} {fuel : Nat} {x : Val} {rest : List Val} {a : Ast} {ty : JType}
    {inv off : Nat} {ks : List Val} {off' : Nat}
    (h : keysTyped rt (fuel + 1) (x :: rest) a ty inv off = .ok (ks, off')) :
    ∃ k o ks', interp rt fuel x a off = .ok (k, o) ∧ k.type = ty ∧
      keysTyped rt fuel rest a ty (inv + 1) o = .ok (ks', off') ∧ ks = k :: ks' := by
  simp only [keysTyped] at h
  split at h
  · cases h
  · next k o hi =>
    split at h
    · cases h
    · next ht =>
      split at h
      · cases h
      · next ks' o' hr => cases h; exact ⟨k, o, ks', hi, by simpa using ht, hr, rfl⟩

/-- `keysTyped` returns one key per element, each of the requested type -/
theorem keysTyped_spec (rt : Registry) (a : Ast) (ty : JType) : ∀ (fuel : Nat) (xs : List Val)
    (inv off : Nat) (ks : List Val) (off' : Nat),
    keysTyped rt fuel xs a ty inv off = .ok (ks, off') →
      ks.length = xs.length ∧ ∀ k ∈ ks, k.type = ty := by
  intro fuel
  induction fuel with
  | zero => intro xs inv off ks off' h; simp [keysTyped] at h
  | succ fuel ih =>
    intro xs inv off ks off' h
    cases xs with
    | nil => simp only [keysTyped, Except.ok.injEq, Prod.mk.injEq] at h; simp [← h.1]
    | cons x rest =>
      obtain ⟨k, o, ks', -, ht, hr, rfl⟩ := keysTyped_ok_cons h
      obtain ⟨hl, hk⟩ := ih rest _ _ _ _ hr
      exact ⟨by simp [hl], List.forall_mem_cons.2 ⟨ht, hk⟩⟩

theorem zip_keys_homog (x k0 : Val) (rest ks : List Val) (hl : ks.length = rest.length)
    (h : Homog (k0 :: ks)) : Homog (((x, k0) :: rest.zip ks).map (·.2)) := by
  have : (rest.zip ks).map (·.2) = ks := List.map_snd_zip (by omega)
  simpa [this] using h

/-! ## C. `merge` is right-biased -/

theorem lookup_append (k : String) (a b : List (String × Val)) :
    Val.lookup k (a ++ b) = (Val.lookup k a).or (Val.lookup k b) := by
  induction a with
  | nil => simp [Val.lookup]
  | cons p a ih =>
    obtain ⟨k1, v1⟩ := p
    simp only [List.cons_append, Val.lookup]
    split <;> simp [ih]

/-- `BTreeMap::extend`: afterwards `k` maps to its last binding in the inserted list, else to what
it mapped to before -/
theorem lookup_extend (k : String) (kvs : List (String × Val)) : ∀ acc : List (String × Val),
    Val.lookup k (kvs.foldl (fun m (p : String × Val) => insertKV p.1 p.2 m) acc) =
      (Val.lookup k kvs.reverse).or (Val.lookup k acc) := by
  induction kvs with
  | nil => intro acc; simp [Val.lookup]
  | cons p kvs ih =>
    intro acc
    obtain ⟨k1, v1⟩ := p
    simp only [List.foldl_cons, ih, List.reverse_cons, lookup_append, Option.or_assoc]
    congr 1
    simp only [lookup_insertKV, Val.lookup, eq_comm (a := k1)]
    split <;> rfl

theorem findSome?_congr' {α β : Type} {f g : α → Option β} {l : List α} (h : ∀ a ∈ l, f a = g a) :
    l.findSome? f = l.findSome? g := by
  induction l with
  | nil => rfl
  | cons a l ih =>
    simp only [List.findSome?_cons, h a (by simp)]
    rw [ih (fun b hb => h b (by simp [hb]))]

/-- the last binding of `k` among the object arguments (scanning right to left) -/
def lastBinding (k : String) (args : List Val) : Option Val :=
  args.reverse.findSome? fun a => match a with
    | .obj kvs => Val.lookup k kvs.reverse
    | _ => none

theorem mergeObjs_lookup (k : String) (args : List Val) : ∀ acc : List (String × Val),
    Val.lookup k (mergeObjs acc args) = (lastBinding k args).or (Val.lookup k acc) := by
  induction args with
  | nil => intro acc; simp [mergeObjs, lastBinding]
  | cons a rest ih =>
    intro acc
    have hcons : lastBinding k (a :: rest) = (lastBinding k rest).or (lastBinding k [a]) := by
      simp [lastBinding, List.findSome?_append]
    cases a with
    | obj kvs =>
      simp only [mergeObjs, ih, lookup_extend, hcons]
      simp [lastBinding, Option.or_assoc]
    | _ =>
      simp only [mergeObjs, ih, hcons]
      simp [lastBinding]

/-- strictly increasing keys (the `BTreeMap` invariant of every object) -/
def SortedKeys (m : List (String × Val)) : Prop := m.Pairwise (fun a b => a.1 < b.1)

theorem mergeObjs_sorted (args : List Val) : ∀ acc, SortedKeys acc → SortedKeys (mergeObjs acc args) := by
  induction args with
  | nil => intro acc h; simpa [mergeObjs] using h
  | cons a rest ih =>
    intro acc h
    cases a with
    | obj kvs =>
      simp only [mergeObjs]
      apply ih
      induction kvs generalizing acc with
      | nil => simpa using h
      | cons p kvs ih2 =>
        simp only [List.foldl_cons]
        exact ih2 _ (insertKV_sorted _ _ _ h)
    | _ => simp only [mergeObjs]; exact ih _ h

/-- the result of `merge` is a well-formed (sorted, duplicate-free) object -/
theorem merge_sorted (args : List Val) : SortedKeys (mergeObjs [] args) :=
  mergeObjs_sorted args [] (by simp [SortedKeys])

theorem ne_of_sortedKeys {m : List (String × Val)} (h : SortedKeys m) :
    m.Pairwise (fun a b => a.1 ≠ b.1) := by
  refine List.Pairwise.imp ?_ h
  intro a b hab heq
  rw [heq] at hab
  exact String.lt_irrefl _ hab

/-- on a duplicate-free object the scan direction does not matter -/
theorem lookup_eq_some_iff (k : String) (v : Val) (m : List (String × Val))
    (h : m.Pairwise (fun a b => a.1 ≠ b.1)) : Val.lookup k m = some v ↔ (k, v) ∈ m := by
  induction m with
  | nil => simp [Val.lookup]
  | cons q rest ih =>
    obtain ⟨k', v'⟩ := q
    rw [List.pairwise_cons] at h
    simp only [Val.lookup, List.mem_cons, Prod.mk.injEq]
    by_cases hk : k' = k
    · subst hk
      simp only [if_true, Option.some.injEq, true_and]
      constructor
      · intro h'; exact .inl h'.symm
      · rintro (h' | h')
        · exact h'.symm
        · exact absurd rfl (h.1 (_, v) h')
    · rw [if_neg hk, ih h.2]
      constructor
      · exact .inr
      · rintro (⟨h', _⟩ | h')
        · exact absurd h'.symm hk
        · exact h'

theorem lookup_reverse (k : String) (m : List (String × Val)) (h : SortedKeys m) :
    Val.lookup k m.reverse = Val.lookup k m := by
  have hne := ne_of_sortedKeys h
  have hne' : m.reverse.Pairwise (fun a b => a.1 ≠ b.1) := by
    rw [List.pairwise_reverse]
    exact hne.imp (fun hab => hab.symm)
  apply Option.ext
  intro v
  rw [lookup_eq_some_iff k v _ hne, lookup_eq_some_iff k v _ hne']
  simp

/-- for well-formed argument objects: `merge(a₁,…,aₙ).k` is `aᵢ.k` for the last `i` that has `k` -/
theorem lastBinding_sorted (k : String) (args : List Val)
    (h : ∀ kvs, Val.obj kvs ∈ args → SortedKeys kvs) :
    lastBinding k args = args.reverse.findSome? fun a => match a with
      | .obj kvs => Val.lookup k kvs
      | _ => none := by
  unfold lastBinding
  apply findSome?_congr'
  intro a ha
  cases a with
  | obj kvs => exact lookup_reverse k kvs (h kvs (by simpa using ha))
  | _ => rfl

/-- two-argument instance: the right operand wins -/
theorem merge_two (k : String) (m1 m2 : List (String × Val)) (h2 : SortedKeys m2) :
    Val.lookup k (mergeObjs [] [.obj m1, .obj m2]) =
      (Val.lookup k m2).or (Val.lookup k m1.reverse) := by
  rw [mergeObjs_lookup]
  simp only [lastBinding, List.reverse_cons, List.reverse_nil, List.nil_append, List.singleton_append,
    List.findSome?_cons, List.findSome?_nil, lookup_reverse k m2 h2, Val.lookup]
  cases Val.lookup k m2 <;> cases Val.lookup k m1.reverse <;> simp

/-! ## D. `keys` / `values` / `length` / `reverse` -/

/-- `keys(o)[i]` is the key under which `values(o)[i]` is stored (for a well-formed object) -/
theorem keys_values_lookup (kvs : List (String × Val)) (h : SortedKeys kvs) (i : Nat) (hi : i < kvs.length) :
    Val.lookup kvs[i].1 kvs = some kvs[i].2 := by
  rw [lookup_eq_some_iff _ _ _ (ne_of_sortedKeys h)]
  exact List.getElem_mem hi

theorem length_arr (xs : List Val) : Builtin.pure .length [.arr xs] = .ok (.num (.pos xs.length)) := rfl
theorem length_obj (kvs : List (String × Val)) :
    Builtin.pure .length [.obj kvs] = .ok (.num (.pos kvs.length)) := rfl

theorem reverse_str (s : String) :
    Builtin.pure .reverse [.str s] = .ok (.str (String.ofList s.toList.reverse)) := rfl
theorem reverse_arr (xs : List Val) : Builtin.pure .reverse [.arr xs] = .ok (.arr xs.reverse) := rfl

/-- `reverse(reverse(x)) = x` for arrays -/
theorem reverse_reverse_arr (xs : List Val) :
    ∃ ys, Builtin.pure .reverse [.arr xs] = .ok (.arr ys) ∧ Builtin.pure .reverse [.arr ys] = .ok (.arr xs) :=
  ⟨xs.reverse, rfl, by simp [reverse_arr]⟩

/-- `reverse(reverse(x)) = x` for strings (code-point reversal) -/
theorem reverse_reverse_str (s : String) :
    ∃ t, Builtin.pure .reverse [.str s] = .ok (.str t) ∧ Builtin.pure .reverse [.str t] = .ok (.str s) ∧
      t.toList = s.toList.reverse :=
  ⟨String.ofList s.toList.reverse, rfl, by simp [reverse_str], by simp⟩

/-- `reverse` preserves `length` -/
theorem length_reverse_str (s : String) :
    (String.ofList s.toList.reverse).toList.length = s.toList.length := by simp

/-! ## E. `avg` / `sum` / `not_null` / `to_array` / `type` / `map` -/

theorem avg_nonempty (xs : List Val) (h : xs ≠ []) :
    Builtin.pure .avg [.arr xs] =
      numOfF64 (F64.div (sumF64 xs) (F64.ofNat xs.length)) "Expected to be a valid f64" := by
  cases xs with
  | nil => exact absurd rfl h
  | cons x xs => rfl

theorem sum_eq (xs : List Val) :
    Builtin.pure .sum [.arr xs] = numOfF64 (sumF64 xs) "Expected to be a valid number" := rfl

/-- the sum is a left fold of IEEE additions over the double images, starting from `+0.0` -/
theorem sumF64_nums (ns : List Num) :
    sumF64 (ns.map .num) = ns.foldl (fun acc n => F64.add acc n.toF64) F64.zero := by
  unfold sumF64
  have : ∀ z : F64, (ns.map Val.num).foldl (fun acc v => F64.add acc ((valNum v).getD F64.zero)) z =
      ns.foldl (fun acc n => F64.add acc n.toF64) z := by
    induction ns with
    | nil => intro z; rfl
    | cons n ns ih => intro z; simp only [List.map_cons, List.foldl_cons, ih]; rfl
  exact this _

theorem sum_empty : Builtin.pure .sum [.arr []] = .ok (.num (.flt F64.zero)) := rfl

/-- **`not_null`** returns the first non-null argument, or null -/
theorem notNull_eq (args : List Val) :
    Builtin.pure .notNull args = .ok ((args.find? (fun v => !v.isNull)).getD .null) := by
  simp [Builtin.pure]

theorem Val.isNull_iff (v : Val) : v.isNull = true ↔ v = .null := by
  cases v <;> simp [Val.isNull]

theorem notNull_spec (args : List Val) :
    (∃ pre v suf, args = pre ++ v :: suf ∧ (∀ x ∈ pre, x = .null) ∧ v ≠ .null ∧
        Builtin.pure .notNull args = .ok v) ∨
    ((∀ x ∈ args, x = .null) ∧ Builtin.pure .notNull args = .ok .null) := by
  rw [notNull_eq]
  cases hf : args.find? (fun v => !v.isNull) with
  | none =>
    refine .inr ⟨fun x hx => ?_, rfl⟩
    simpa [Val.isNull_iff] using List.find?_eq_none.1 hf x hx
  | some v =>
    obtain ⟨hv, pre, suf, he, hp⟩ := List.find?_eq_some_iff_append.1 hf
    exact .inl ⟨pre, v, suf, he, fun x hx => by simpa [Val.isNull_iff] using hp x hx,
      by rintro rfl; simp [Val.isNull] at hv, rfl⟩

/-! **`to_array`** wraps non-arrays and leaves arrays alone -/

theorem toArray_arr (xs : List Val) : Builtin.pure .toArray [.arr xs] = .ok (.arr xs) := rfl
theorem toArray_other (v : Val) (h : ∀ xs, v ≠ .arr xs) : Builtin.pure .toArray [v] = .ok (.arr [v]) := by
  cases v <;> first | rfl | exact absurd rfl (h _)

/-- `to_array` always yields an array, and is idempotent -/
theorem toArray_idem (v : Val) :
    ∃ ys, Builtin.pure .toArray [v] = .ok (.arr ys) ∧ Builtin.pure .toArray [.arr ys] = .ok (.arr ys) := by
  cases v <;> exact ⟨_, rfl, rfl⟩


theorem type_names :
    Builtin.pure .type [.null] = .ok (.str "null") ∧
    (∀ b, Builtin.pure .type [.bool b] = .ok (.str "boolean")) ∧
    (∀ n, Builtin.pure .type [.num n] = .ok (.str "number")) ∧
    (∀ s, Builtin.pure .type [.str s] = .ok (.str "string")) ∧
    (∀ xs, Builtin.pure .type [.arr xs] = .ok (.str "array")) ∧
    (∀ kvs, Builtin.pure .type [.obj kvs] = .ok (.str "object")) ∧
    (∀ a, Builtin.pure .type [.expref a] = .ok (.str "expref")) :=
  ⟨rfl, fun _ => rfl, fun _ => rfl, fun _ => rfl, fun _ => rfl, fun _ => rfl, fun _ => rfl⟩

theorem mapExpref_nil (rt : Registry) (fuel : Nat) (a : Ast) (off : Nat) :
    mapExpref rt (fuel + 1) [] a off = .ok ([], off) := by
  simp only [mapExpref]

/-- one successful step of `map(&e, xs)`: the expression is evaluated against the first element, then
against the rest -/
theorem mapExpref_ok_cons {rt : Registry} {fuel : Nat} {x : Val} {rest : List Val} {a : Ast} {off : Nat}
    {ys : List Val} {off' : Nat} (h : mapExpref rt (fuel + 1) (x :: rest) a off = .ok (ys, off')) :
    ∃ y o ys', interp rt fuel x a off = .ok (y, o) ∧ mapExpref rt fuel rest a o = .ok (ys', off') ∧
      ys = y :: ys' := by
  simp only [mapExpref] at h
  split at h
  · cases h
  · next y o hi =>
    split at h
    · cases h
    · next ys' o' hr => cases h; exact ⟨y, o, ys', hi, hr, rfl⟩

/-- **`map` preserves length and keeps nulls**: the `i`-th output is the value of the expression on
the `i`-th input (nothing is dropped, unlike a projection) -/
theorem mapExpref_spec (rt : Registry) (a : Ast) : ∀ (fuel : Nat) (xs : List Val) (off : Nat)
    (ys : List Val) (off' : Nat), mapExpref rt fuel xs a off = .ok (ys, off') →
      ys.length = xs.length ∧
      ∀ i (h1 : i < xs.length) (h2 : i < ys.length), ∃ f o o', interp rt f xs[i] a o = .ok (ys[i], o') := by
  intro fuel
  induction fuel with
  | zero => intro xs off ys off' h; simp [mapExpref] at h
  | succ fuel ih =>
    intro xs off ys off' h
    cases xs with
    | nil => simp only [mapExpref_nil, Except.ok.injEq, Prod.mk.injEq] at h; simp [← h.1]
    | cons x rest =>
      obtain ⟨y, o, ys', hi, hr, rfl⟩ := mapExpref_ok_cons h
      obtain ⟨hl, hget⟩ := ih rest _ _ _ hr
      refine ⟨by simp [hl], fun i h1 h2 => ?_⟩
      cases i with
      | zero => exact ⟨fuel, off, o, hi⟩
      | succ i => exact hget i (by simpa using h1) (by simpa using h2)

/-! ## F. `contains` / `starts_with` / `ends_with` / `join` -/

/-- **`contains(string, string)`** is the substring relation on code points -/
theorem isInfix_iff (n h : List Char) : isInfix n h = true ↔ ∃ pre suf, h = pre ++ n ++ suf := by
  induction h with
  | nil =>
    simp only [isInfix, List.isEmpty_iff]
    constructor
    · rintro rfl; exact ⟨[], [], rfl⟩
    · rintro ⟨pre, suf, h⟩
      have := congrArg List.length h
      simp only [List.length_nil, List.length_append] at this
      exact List.eq_nil_of_length_eq_zero (by omega)
  | cons c t ih =>
    simp only [isInfix, Bool.or_eq_true, List.isPrefixOf_iff_prefix, ih]
    constructor
    · rintro (⟨suf, h⟩ | ⟨pre, suf, h⟩)
      · exact ⟨[], suf, by simpa using h.symm⟩
      · exact ⟨c :: pre, suf, by simp [h]⟩
    · rintro ⟨pre, suf, h⟩
      cases pre with
      | nil => exact .inl ⟨suf, by simpa using h.symm⟩
      | cons d pre =>
        simp only [List.cons_append, List.cons.injEq] at h
        exact .inr ⟨pre, suf, h.2⟩

/-- a string never "contains" a non-string -/
theorem contains_str_other (s : String) (v : Val) (h : ∀ n, v ≠ .str n) :
    Builtin.pure .contains [.str s, v] = .ok (.bool false) := by
  cases v <;> first | rfl | exact absurd rfl (h _)

/-- `contains(array, x)`: some element is `==` to `x` -/
theorem contains_arr (xs : List Val) (v : Val) :
    Builtin.pure .contains [.arr xs, v] = .ok (.bool (xs.any (fun x => Val.beq x v))) := rfl

theorem isPrefixOf_iff_append (t s : List Char) : t.isPrefixOf s = true ↔ ∃ suf, s = t ++ suf := by
  rw [List.isPrefixOf_iff_prefix]
  exact ⟨fun ⟨suf, h⟩ => ⟨suf, h.symm⟩, fun ⟨suf, h⟩ => ⟨suf, h.symm⟩⟩

theorem isSuffixOf_iff_append (t s : List Char) :
    t.reverse.isPrefixOf s.reverse = true ↔ ∃ pre, s = pre ++ t := by
  rw [List.isPrefixOf_iff_prefix, List.reverse_prefix]
  exact ⟨fun ⟨pre, h⟩ => ⟨pre, h.symm⟩, fun ⟨pre, h⟩ => ⟨pre, h.symm⟩⟩

theorem startsWith_eq (s t : String) :
    Builtin.pure .startsWith [.str s, .str t] = .ok (.bool (t.toList.isPrefixOf s.toList)) := rfl
theorem endsWith_eq (s t : String) :
    Builtin.pure .endsWith [.str s, .str t] = .ok (.bool (t.toList.reverse.isPrefixOf s.toList.reverse)) := rfl

/-- **`join`** is `intercalate` -/
theorem join_eq (glue : String) (ss : List String) :
    Builtin.pure .join [.str glue, .arr (ss.map .str)] = .ok (.str (glue.intercalate ss)) := by
  simp only [Builtin.pure]
  congr 3
  induction ss with
  | nil => rfl
  | cons s ss ih => simp only [List.map_cons, List.filterMap_cons, ih]

theorem join_two (glue a b : String) :
    Builtin.pure .join [.str glue, .arr [.str a, .str b]] = .ok (.str (a ++ glue ++ b)) := by
  rw [show [Val.str a, Val.str b] = [a, b].map Val.str from rfl, join_eq]
  simp

theorem join_nil (glue : String) : Builtin.pure .join [.str glue, .arr []] = .ok (.str "") := by
  simp [Builtin.pure]

theorem join_one (glue a : String) : Builtin.pure .join [.str glue, .arr [.str a]] = .ok (.str a) := by
  rw [show [Val.str a] = [a].map Val.str from rfl, join_eq]
  simp

/-- the recursion: first element, glue, the rest joined -/
theorem join_cons_cons (glue a b : String) (ss : List String) :
    glue.intercalate (a :: b :: ss) = a ++ glue ++ glue.intercalate (b :: ss) :=
  String.intercalate_cons_cons

/-! ## G. string order, and `vle` on what the signature of `sort` / `max` / `min` accepts -/

/-- string order is the lexicographic order of the code-point lists -/
theorem cmp_str_lt (a b : String) : Val.cmp (.str a) (.str b) = .lt ↔ a.toList < b.toList := by
  show compareOfLessAndEq a b = .lt ↔ a < b
  unfold compareOfLessAndEq
  split
  · simp [*]
  · split <;> simp [*]

theorem cmp_str_eq (a b : String) : Val.cmp (.str a) (.str b) = .eq ↔ a = b := by
  show compare a b = .eq ↔ a = b
  exact Std.compare_eq_iff_eq

/-- `vle` is total on *all* values (mixed and other types compare `Equal`), given finiteness -/
theorem vle_total (a b : Val) (hfin : ∀ x y, a = .num x → b = .num y → BothFinite x y) :
    vle a b = true ∨ vle b a = true := by
  by_cases h : (∃ x y, a = .str x ∧ b = .str y) ∨ (∃ x y, a = .num x ∧ b = .num y)
  · rcases h with ⟨x, y, rfl, rfl⟩ | ⟨x, y, rfl, rfl⟩
    · simpa only [vle_str] using isLE_total x y
    · have h := hfin x y rfl rfl
      rw [vle_num x y h, vle_num y x ⟨h.2, h.1⟩]
      simpa using Rat.le_total
  · exact .inl (by simp [vle, cmp_other a b h])

/-- what the signature `array[string]|array[number]` accepts, plus finiteness of the stored doubles
(which `serde_json::Number` guarantees), is `Homog` -/
theorem homog_of_strsOrNums {xs : List Val} (h : Spec.Fn.SameKind xs)
    (hfin : ∀ n, Val.num n ∈ xs → n.toF64.isFinite = true) : Homog xs := by
  rcases h with h | h
  · exact .inl h
  · refine .inr fun x hx => ?_
    obtain ⟨n, rfl⟩ := h x hx
    exact ⟨n, rfl, hfin n hx⟩

/-! ### non-vacuity -/
example : Homog [.str "b", .str "a"] := .inl (by simp)
example : Homog [.num (.flt (.fin false 4503599627370496 (-52))), .num (.flt F64.zero)] :=
  .inr (by simp [Num.toF64, F64.isFinite, F64.zero])
example : vle (.str "a") (.str "b") = true := by decide
example : SortedKeys [("a", .null), ("b", .null)] := by
  simp only [SortedKeys, List.pairwise_cons]; simp
example : lastBinding "k" [.obj [("k", .bool true)], .null, .obj [("k", .bool false)], .obj [("j", .null)]]
    = some (.bool false) := by simp [lastBinding, Val.lookup]

end JmesVerif

#print axioms JmesVerif.cmp_str
#print axioms JmesVerif.cmp_str_lt
#print axioms JmesVerif.foldMax_spec
#print axioms JmesVerif.foldMin_spec
#print axioms JmesVerif.pickExtreme_mem
#print axioms JmesVerif.pickMax_spec
#print axioms JmesVerif.pickMin_spec
#print axioms JmesVerif.keysTyped_spec
#print axioms JmesVerif.lookup_extend
#print axioms JmesVerif.mergeObjs_lookup
#print axioms JmesVerif.merge_sorted
#print axioms JmesVerif.lastBinding_sorted
#print axioms JmesVerif.merge_two
#print axioms JmesVerif.keys_values_lookup
#print axioms JmesVerif.reverse_str
#print axioms JmesVerif.reverse_reverse_arr
#print axioms JmesVerif.reverse_reverse_str
#print axioms JmesVerif.avg_nonempty
#print axioms JmesVerif.sum_eq
#print axioms JmesVerif.sumF64_nums
#print axioms JmesVerif.notNull_eq
#print axioms JmesVerif.notNull_spec
#print axioms JmesVerif.toArray_idem
#print axioms JmesVerif.toArray_other
#print axioms JmesVerif.mapExpref_spec
#print axioms JmesVerif.isInfix_iff
#print axioms JmesVerif.join_eq
#print axioms JmesVerif.join_two
