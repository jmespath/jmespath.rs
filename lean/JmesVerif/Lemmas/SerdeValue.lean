import JmesVerif.Model.SerdeValue
import JmesVerif.Lemmas.InsertKV
namespace JmesVerif

theorem keysSorted_head_lt {β : Type} (k : String) (v : β) (r : List (String × β))
    (h : KeysSorted ((k, v) :: r)) : ∀ p ∈ r, k < p.1 := by
  induction r generalizing k v with
  | nil => intro p hp; cases hp
  | cons q rest ih =>
    obtain ⟨k', v'⟩ := q
    simp only [KeysSorted] at h
    intro p hp
    rcases List.mem_cons.mp hp with rfl | hp
    · exact h.1
    · exact String.lt_trans h.1 (ih k' v' h.2 p hp)

theorem keysSorted_tail {β : Type} (p : String × β) (r : List (String × β)) (h : KeysSorted (p :: r)) : KeysSorted r := by
  cases r with
  | nil => trivial
  | cons q rest => obtain ⟨k, v⟩ := p; obtain ⟨k', v'⟩ := q; exact h.2

mutual
theorem toJValue_toVal : ∀ v : Val, v.isJson = true → v.Sorted → v.toJValue.toVal = v
  | .null, _, _ => rfl
  | .bool _, _, _ => rfl
  | .num _, _, _ => rfl
  | .str _, _, _ => rfl
  | .arr xs, hj, hs => congrArg Val.arr (toJValues_toVals xs hj hs)
  | .obj kvs, hj, hs => congrArg Val.obj (toJKVs_toKVs kvs [] hj hs.2 hs.1 nofun)
  | .expref _, hj, _ => nomatch hj
theorem toJValues_toVals : ∀ xs : List Val, valsJson xs = true → valsSorted xs →
    JValue.toVals (Val.toJValues xs) = xs
  | [], _, _ => rfl
  | x :: xs, hj, hs => by
    simp only [valsJson, Bool.and_eq_true] at hj
    simp only [Val.toJValues, JValue.toVals, toJValue_toVal x hj.1 hs.1, toJValues_toVals xs hj.2 hs.2]
theorem toJKVs_toKVs : ∀ (kvs acc : List (String × Val)), kvsJson kvs = true → kvsSorted kvs → KeysSorted kvs →
    (∀ p ∈ acc, ∀ q ∈ kvs, p.1 < q.1) →
    JValue.toKVs (Val.toJKVs kvs) acc = acc ++ kvs
  | [], acc, _, _, _, _ => by simp [Val.toJKVs, JValue.toKVs]
  | (k, x) :: r, acc, hj, hs, hk, hacc => by
    simp only [kvsJson, Bool.and_eq_true] at hj
    simp only [Val.toJKVs, JValue.toKVs, toJValue_toVal x hj.1 hs.1]
    have ⟨hi, hb⟩ := insertKV_below x hacc (keysSorted_head_lt k x r hk)
    rw [hi, toJKVs_toKVs r _ hj.2 hs.2 (keysSorted_tail _ _ hk) hb]
    simp
end

end JmesVerif
