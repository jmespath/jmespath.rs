import JmesVerif.Lemmas.InterpMono
import JmesVerif.Lemmas.Signature
/-!
Compositionality of the interpreter model (`Model/Interp.lean`).

The threaded offset register (`ctx.offset`) never influences the value or the error of `interp`
(`projectEach`, `interpAll`, `interpKVs` likewise), and a successful run of any function of the block
hands it back unchanged; both are read off `Comp.keep_all` (`Lemmas/InterpStep.lean`).  `callFn`,
`mapExpref`, `keysTyped`, `byExtreme` are entered with the call's own offset, which their errors record
(`callFn_outcome_depends_on_offset`).

`Evals rt d a r` is big-step evaluation with enough fuel, from any offset; the `C11_*` theorems
characterise `Evals` of every compound node exactly by `Evals` of its parts.  `Evals rt d a` says that
the fuel-indexed computation `ev rt · d a` settles (`Comp.Conv`, `Comp.evals_step`); one level of it
(`Comp.evStep`) is a `>>=` of such computations, and `Comp.conv_bind` splits `Conv` of a `>>=` whose
first computation is `Stable` (`Comp.stable_ev`) into `Conv` of its parts.
-/
namespace JmesVerif

namespace Comp

/-- `Keep` seen through `outcome`, where the `lift off` drops out: what `interp_offset_irrelevant` reads -/
structure OffIrr (rt : Registry) (n : Nat) : Prop where
  interp : ∀ d a o1 o2, outcome (interp rt n d a o1) = outcome (interp rt n d a o2)
  projectEach : ∀ xs a o1 o2, outcome (projectEach rt n xs a o1) = outcome (projectEach rt n xs a o2)
  interpAll : ∀ d es o1 o2, outcome (interpAll rt n d es o1) = outcome (interpAll rt n d es o2)
  interpKVs : ∀ d kvs acc o1 o2, outcome (interpKVs rt n d kvs acc o1) = outcome (interpKVs rt n d kvs acc o2)

theorem offIrr_all (rt : Registry) (n : Nat) : OffIrr rt n := by
  have h := keep_all rt n
  constructor <;> intros <;> simp only [h.interp, h.projectEach, h.interpAll, h.interpKVs, outcome_lift]

/-- a successful run of any function of the block returns the offset it was given -/
structure OffKeep (rt : Registry) (n : Nat) : Prop where
  interp : ∀ d a off v off', interp rt n d a off = .ok (v, off') → off' = off
  projectEach : ∀ xs a off v off', projectEach rt n xs a off = .ok (v, off') → off' = off
  interpAll : ∀ d es off v off', interpAll rt n d es off = .ok (v, off') → off' = off
  interpKVs : ∀ d kvs acc off v off', interpKVs rt n d kvs acc off = .ok (v, off') → off' = off
  mapExpref : ∀ xs a off v off', mapExpref rt n xs a off = .ok (v, off') → off' = off
  keysTyped : ∀ xs a ty inv off v off', keysTyped rt n xs a ty inv off = .ok (v, off') → off' = off
  callFn : ∀ f args off v off', callFn rt n f args off = .ok (v, off') → off' = off
  byExtreme : ∀ isMax xs a off v off', byExtreme rt n isMax xs a off = .ok (v, off') → off' = off

theorem lift_keep {off : Nat} {r : Except EvalErr α} {v : α} {off' : Nat} (h : lift off r = .ok (v, off')) :
    off' = off := (lift_ok_iff.1 h).2

theorem byExtreme_keep {rt n isMax xs a off v off'} (h : byExtreme rt n isMax xs a off = .ok (v, off')) :
    off' = off := by
  cases n with
  | zero => simp only [byExtreme] at h; cases h
  | succ n => exact lift_keep (byExtreme_succ rt n isMax xs a off ▸ h)

theorem offKeep_all (rt : Registry) (n : Nat) : OffKeep rt n := by
  have k := keep_all rt n
  refine ⟨fun d a off _ _ e => lift_keep (k.interp d a off ▸ e),
    fun xs a off _ _ e => lift_keep (k.projectEach xs a off ▸ e),
    fun d es off _ _ e => lift_keep (k.interpAll d es off ▸ e),
    fun d kvs acc off _ _ e => lift_keep (k.interpKVs d kvs acc off ▸ e),
    fun xs a off _ _ e => lift_keep (k.mapExpref xs a off ▸ e),
    fun xs a ty inv off _ _ e => lift_keep (k.keysTyped xs a ty inv off ▸ e), ?_,
    fun isMax xs a off _ _ e => byExtreme_keep e⟩
  intro f args off v off' h
  cases n with
  | zero => simp only [callFn] at h; cases h
  | succ n =>
    cases f with
    | custom id sig =>
      rw [callFn.eq_def] at h
      simp only at h
      repeat' (split at h)
      all_goals cases h
      all_goals rfl
    | builtin b =>
      rcases callFn_shape b args off with ⟨e, _, he⟩ | ⟨_, _, hp⟩ | ⟨rfl, a, xs, rfl⟩ | ⟨hb, a, xs, rfl⟩
      · rw [he] at h; cases h
      · exact lift_keep (hp rt n ▸ h)
      · exact lift_keep (callFn_map_eq .. ▸ h)
      · rcases hb with rfl | rfl | rfl
        · exact lift_keep (callFn_sortBy_eq .. ▸ h)
        · rw [callFn_maxBy] at h; exact byExtreme_keep h
        · rw [callFn_minBy] at h; exact byExtreme_keep h

end Comp

theorem interp_offset_irrelevant (rt : Registry) (fuel : Nat) (d : Val) (a : Ast) (off₁ off₂ : Nat) :
    outcome (interp rt fuel d a off₁) = outcome (interp rt fuel d a off₂) :=
  (Comp.offIrr_all rt fuel).interp d a off₁ off₂

/-- the same run from another offset -/
theorem interp_reoffset (rt : Registry) (fuel : Nat) (d : Val) (a : Ast) (off off₂ : Nat) :
    (∀ v off', interp rt fuel d a off = .ok (v, off') → interp rt fuel d a off₂ = .ok (v, off₂)) ∧
    (∀ e, interp rt fuel d a off = .error e → interp rt fuel d a off₂ = .error e) := by
  simp only [(Comp.keep_all rt fuel).interp]
  cases Comp.ev rt fuel d a <;> simp [Comp.lift]

/-- why `callFn` (and `mapExpref`, `keysTyped`, `byExtreme`) are not covered: their
errors record the offset they were entered with (the call's own offset, fixed by the tree) -/
theorem callFn_outcome_depends_on_offset (rt : Registry) :
    outcome (callFn rt 1 (.builtin .abs) [] 0) ≠ outcome (callFn rt 1 (.builtin .abs) [] 1) := by
  simp [callFn, Builtin.sig, Sig.validate, Sig.validateArity]

/-- with enough fuel, evaluating `a` on `d` yields `r` (a value or a genuine error), from any offset -/
def Evals (rt : Registry) (d : Val) (a : Ast) (r : Except EvalErr Val) : Prop :=
  r ≠ .error .fuel ∧ ∃ n, ∀ fuel, n ≤ fuel → ∀ off, outcome (interp rt fuel d a off) = r

namespace Comp

theorem outcome_interp (rt : Registry) (n : Nat) (d : Val) (a : Ast) (off : Nat) :
    outcome (interp rt n d a off) = ev rt n d a := interp_offset_irrelevant rt n d a off 0

/-- the fuel-indexed computation `f` settles on `r`: from some fuel on it returns `r`, which is not
the out-of-fuel error -/
def Conv (f : Nat → Except EvalErr α) (r : Except EvalErr α) : Prop :=
  r ≠ .error .fuel ∧ ∃ n, ∀ m, n ≤ m → f m = r

theorem conv_iff {f : Nat → Except EvalErr α} {r} (hf : Stable f) :
    Conv f r ↔ r ≠ .error .fuel ∧ ∃ n, f n = r :=
  and_congr_right fun hr => ⟨fun ⟨n, h⟩ => ⟨n, h n (Nat.le_refl n)⟩, fun ⟨n, h⟩ => ⟨n, hf n r h hr⟩⟩

theorem conv_det {f : Nat → Except EvalErr α} {r₁ r₂} : Conv f r₁ → Conv f r₂ → r₁ = r₂ :=
  fun ⟨_, n₁, h₁⟩ ⟨_, n₂, h₂⟩ => (h₁ _ (Nat.le_max_left n₁ n₂)).symm.trans (h₂ _ (Nat.le_max_right n₁ n₂))

theorem conv_succ {f : Nat → Except EvalErr α} {r} : Conv f r ↔ Conv (fun n => f (n+1)) r :=
  and_congr_right fun _ =>
    ⟨fun ⟨n, h⟩ => ⟨n, fun m hm => h _ (Nat.le_succ_of_le hm)⟩,
     fun ⟨n, h⟩ => ⟨n + 1, fun m hm => by
       cases m with
       | zero => exact absurd hm (Nat.not_succ_le_zero n)
       | succ k => exact h k (Nat.le_of_succ_le_succ hm)⟩⟩

theorem conv_pure {v : α} {r} : Conv (fun _ => .ok v) r ↔ r = .ok v :=
  ⟨fun ⟨_, n, h⟩ => (h n (Nat.le_refl n)).symm, fun h => ⟨by simp [h], 0, fun _ _ => h.symm⟩⟩

theorem conv_ite {c : Prop} [Decidable c] {f g : Nat → Except EvalErr α} {r} :
    Conv (fun n => if c then f n else g n) r ↔ (c ∧ Conv f r) ∨ (¬c ∧ Conv g r) := by
  by_cases h : c <;> simp only [h, if_true, if_false, true_and, false_and, not_true, not_false_eq_true,
    or_false, false_or]

theorem conv_bind {f : Nat → Except EvalErr α} {g : α → Nat → Except EvalErr β} {r} (hf : Stable f) :
    Conv (fun n => f n >>= (g · n)) r ↔
      (∃ e, Conv f (.error e) ∧ r = .error e) ∨ ∃ v, Conv f (.ok v) ∧ Conv (g v) r := by
  constructor
  · rintro ⟨hr, n, h⟩
    replace h : ∀ m, n ≤ m → f m >>= (g · m) = r := h
    cases hn : f n with
    | error e =>
      obtain rfl : .error e = r := by rw [← h n (Nat.le_refl n), hn]; rfl
      have he : (.error e : Except EvalErr α) ≠ .error .fuel := by simpa using hr
      exact .inl ⟨e, ⟨he, n, hf n _ hn he⟩, rfl⟩
    | ok v =>
      have hv := hf n _ hn (by simp)
      exact .inr ⟨v, ⟨by simp, n, hv⟩, hr, n, fun m hm => by rw [← h m hm, hv m hm]; rfl⟩
  · rintro (⟨e, ⟨he, n, h⟩, rfl⟩ | ⟨v, ⟨_, n₁, h₁⟩, hr, n₂, h₂⟩)
    · exact ⟨by simpa using he, n, fun m hm => by simp only [h m hm]; rfl⟩
    · exact ⟨hr, max n₁ n₂, fun m hm => by
        simp only [h₁ m (Nat.le_trans (Nat.le_max_left ..) hm)]
        exact h₂ m (Nat.le_trans (Nat.le_max_right ..) hm)⟩

/-- `conv_bind` for a continuation that only post-processes the value -/
theorem conv_map {f : Nat → Except EvalErr α} {h : α → β} {r} (hf : Stable f) :
    Conv (fun n => f n >>= fun v => .ok (h v)) r ↔
      ∃ x, Conv f x ∧ r = x.map h := by
  rw [conv_bind hf]
  simp only [conv_pure]
  constructor
  · rintro (⟨e, he, rfl⟩ | ⟨v, hv, rfl⟩)
    · exact ⟨_, he, rfl⟩
    · exact ⟨_, hv, rfl⟩
  · rintro ⟨x, hx, rfl⟩
    cases x
    · exact .inl ⟨_, hx, rfl⟩
    · exact .inr ⟨_, hx, rfl⟩

theorem evals_conv {rt d a r} : Evals rt d a r ↔ Conv (fun n => ev rt n d a) r := by
  simp only [Evals, Conv, outcome_interp, forall_const]

/-- evaluation of a node is one level of `interp` over the evaluations of its parts -/
theorem evals_step {rt d a r} : Evals rt d a r ↔ Conv (fun n => evStep rt n d a) r := by
  rw [evals_conv, conv_succ]
  simp only [ev_succ]

end Comp


open Comp in
/-- pipe / sub-expression is composition -/
theorem C11_pipe (rt : Registry) (d : Val) (o : Nat) (l r : Ast) (res : Except EvalErr Val) :
    Evals rt d (.subexpr o l r) res ↔
      (∃ e, Evals rt d l (.error e) ∧ res = .error e) ∨ (∃ v, Evals rt d l (.ok v) ∧ Evals rt v r res) := by
  rw [evals_step]
  simp only [evStep, conv_bind (stable_ev _ _ _), evals_conv]

open Comp in
theorem C11_not (rt : Registry) (d : Val) (o : Nat) (a : Ast) (res : Except EvalErr Val) :
    Evals rt d (.not o a) res ↔
      (∃ e, Evals rt d a (.error e) ∧ res = .error e) ∨
      (∃ v, Evals rt d a (.ok v) ∧ res = .ok (.bool (!v.truthy))) := by
  rw [evals_step]
  simp only [evStep, conv_bind (stable_ev _ _ _), conv_pure, evals_conv]

open Comp in
/-- `||`: the left operand if it is truthy, else the right operand -/
theorem C11_or (rt : Registry) (d : Val) (o : Nat) (l r : Ast) (res : Except EvalErr Val) :
    Evals rt d (.or o l r) res ↔
      (∃ e, Evals rt d l (.error e) ∧ res = .error e) ∨
      (∃ v, Evals rt d l (.ok v) ∧ v.truthy = true ∧ res = .ok v) ∨
      (∃ v, Evals rt d l (.ok v) ∧ v.truthy = false ∧ Evals rt d r res) := by
  rw [evals_step]
  simp only [evStep, conv_bind (stable_ev _ _ _), conv_ite, conv_pure, evals_conv, and_or_left, exists_or,
    Bool.not_eq_true]

open Comp in
/-- `&&`: the left operand if it is falsy, else the right operand -/
theorem C11_and (rt : Registry) (d : Val) (o : Nat) (l r : Ast) (res : Except EvalErr Val) :
    Evals rt d (.and o l r) res ↔
      (∃ e, Evals rt d l (.error e) ∧ res = .error e) ∨
      (∃ v, Evals rt d l (.ok v) ∧ v.truthy = false ∧ res = .ok v) ∨
      (∃ v, Evals rt d l (.ok v) ∧ v.truthy = true ∧ Evals rt d r res) := by
  rw [evals_step]
  simp only [evStep, conv_bind (stable_ev _ _ _), conv_ite, conv_pure, evals_conv, and_or_left, exists_or,
    Bool.not_eq_true', Bool.not_eq_false]

open Comp in
/-- the per-element step of a filter `[?pred]`: `thn` if the predicate is truthy, else null -/
theorem C11_condition (rt : Registry) (d : Val) (o : Nat) (pred thn : Ast) (res : Except EvalErr Val) :
    Evals rt d (.condition o pred thn) res ↔
      (∃ e, Evals rt d pred (.error e) ∧ res = .error e) ∨
      (∃ c, Evals rt d pred (.ok c) ∧ c.truthy = true ∧ Evals rt d thn res) ∨
      (∃ c, Evals rt d pred (.ok c) ∧ c.truthy = false ∧ res = .ok .null) := by
  rw [evals_step]
  simp only [evStep, conv_bind (stable_ev _ _ _), conv_ite, conv_pure, evals_conv, and_or_left, exists_or,
    Bool.not_eq_true]

open Comp in
/-- a comparison evaluates both operands left to right and compares the values -/
theorem C11_comparison (rt : Registry) (d : Val) (o : Nat) (c : Cmp) (l r : Ast) (res : Except EvalErr Val) :
    Evals rt d (.comparison o c l r) res ↔
      (∃ e, Evals rt d l (.error e) ∧ res = .error e) ∨
      (∃ lv e, Evals rt d l (.ok lv) ∧ Evals rt d r (.error e) ∧ res = .error e) ∨
      (∃ lv rv, Evals rt d l (.ok lv) ∧ Evals rt d r (.ok rv) ∧
        res = .ok (match Val.compare c lv rv with | some b => .bool b | none => .null)) := by
  rw [evals_step]
  simp only [evStep, conv_bind (stable_ev _ _ _), conv_pure, evals_conv, and_or_left, exists_or,
    exists_and_left]
  exact .rfl

open Comp in
/-- flatten merges one level of an array result; anything else is null -/
theorem C11_flatten (rt : Registry) (d : Val) (o : Nat) (a : Ast) (res : Except EvalErr Val) :
    Evals rt d (.flatten o a) res ↔
      (∃ e, Evals rt d a (.error e) ∧ res = .error e) ∨
      (∃ v, Evals rt d a (.ok v) ∧ (∀ xs, v ≠ .arr xs) ∧ res = .ok .null) ∨
      (∃ xs, Evals rt d a (.ok (.arr xs)) ∧
        res = .ok (.arr (xs.flatMap fun x => match x with | .arr ys => ys | other => [other]))) := by
  rw [evals_step]
  simp only [evStep, conv_bind (stable_ev _ _ _), conv_pure, evals_conv]
  refine or_congr_right ⟨?_, ?_⟩
  · rintro ⟨v, hv, rfl⟩
    cases v
    case arr xs => exact .inr ⟨xs, hv, rfl⟩
    all_goals exact .inl ⟨_, hv, nofun, rfl⟩
  · rintro (⟨v, hv, hna, rfl⟩ | ⟨xs, hv, rfl⟩)
    · refine ⟨v, hv, ?_⟩
      cases v
      case arr xs => exact absurd rfl (hna xs)
      all_goals rfl
    · exact ⟨_, hv, rfl⟩

open Comp in
/-- `*` on an object result lists its values (in key order); on anything else it is null -/
theorem C11_objectValues (rt : Registry) (d : Val) (o : Nat) (a : Ast) (res : Except EvalErr Val) :
    Evals rt d (.objectValues o a) res ↔
      (∃ e, Evals rt d a (.error e) ∧ res = .error e) ∨
      (∃ v, Evals rt d a (.ok v) ∧ (∀ kvs, v ≠ .obj kvs) ∧ res = .ok .null) ∨
      (∃ kvs, Evals rt d a (.ok (.obj kvs)) ∧ res = .ok (.arr (kvs.map fun (_, v) => v))) := by
  rw [evals_step]
  simp only [evStep, conv_bind (stable_ev _ _ _), conv_pure, evals_conv]
  refine or_congr_right ⟨?_, ?_⟩
  · rintro ⟨v, hv, rfl⟩
    cases v
    case obj kvs => exact .inr ⟨kvs, hv, rfl⟩
    all_goals exact .inl ⟨_, hv, nofun, rfl⟩
  · rintro (⟨v, hv, hna, rfl⟩ | ⟨kvs, hv, rfl⟩)
    · refine ⟨v, hv, ?_⟩
      cases v
      case obj kvs => exact absurd rfl (hna kvs)
      all_goals rfl
    · exact ⟨_, hv, rfl⟩

/-- element-wise evaluation of `r` over `xs`, in order: the first failure, or all results -/
inductive EachEvals (rt : Registry) (r : Ast) : List Val → Except EvalErr (List Val) → Prop
  | nil : EachEvals rt r [] (.ok [])
  | fail (x xs e) : Evals rt x r (.error e) → EachEvals rt r (x :: xs) (.error e)
  | step (x xs v res) : Evals rt x r (.ok v) → EachEvals rt r xs res →
      EachEvals rt r (x :: xs) (match res with | .ok vs => .ok (v :: vs) | .error e => .error e)

/-- evaluation of a list of trees on the same data, in order: the first failure, or all results -/
inductive AllEvals (rt : Registry) (d : Val) : List Ast → Except EvalErr (List Val) → Prop
  | nil : AllEvals rt d [] (.ok [])
  | fail (a rest e) : Evals rt d a (.error e) → AllEvals rt d (a :: rest) (.error e)
  | step (a rest v res) : Evals rt d a (.ok v) → AllEvals rt d rest res →
      AllEvals rt d (a :: rest) (match res with | .ok vs => .ok (v :: vs) | .error e => .error e)

namespace Comp

/-- `projectEach` settles on the element-wise results with the nulls dropped -/
theorem conv_evEach (rt : Registry) (r : Ast) : ∀ (xs : List Val) (out' : Except EvalErr (List Val)),
    Conv (fun n => evEach rt n xs r) out' ↔
      ∃ out, EachEvals rt r xs out ∧ out' = out.map (List.filter fun y => !y.isNull)
  | [], out' => by
    rw [conv_succ]
    simp only [evEach_succ, evEachStep, conv_pure]
    exact ⟨fun h => ⟨_, .nil, h⟩, fun ⟨_, h, e⟩ => by cases h; exact e⟩
  | x :: xs, out' => by
    rw [conv_succ]
    simp only [evEach_succ, evEachStep, conv_bind (stable_ev _ _ _), conv_map (stable_evEach _ _ _),
      conv_evEach rt r xs, ← evals_conv]
    have step (v : Val) (res : Except EvalErr (List Val)) :
        (res.map (List.filter fun y => !y.isNull)).map (fun vs => if v.isNull then vs else v :: vs) =
        (match res with | .ok vs => .ok (v :: vs) | .error e => .error e : Except EvalErr (List Val)).map
          (List.filter fun y => !y.isNull) := by
      cases res with
      | error e => rfl
      | ok vs => cases hv : v.isNull <;> simp [Except.map, hv]
    constructor
    · rintro (⟨e, h, rfl⟩ | ⟨v, h, _, ⟨res, hres, rfl⟩, rfl⟩)
      · exact ⟨_, .fail x xs e h, rfl⟩
      · exact ⟨_, .step x xs v res h hres, step v res⟩
    · rintro ⟨_, h, rfl⟩
      cases h with
      | fail _ _ e h => exact .inl ⟨e, h, rfl⟩
      | step _ _ v res h hres => exact .inr ⟨v, h, _, ⟨res, hres, rfl⟩, (step v res).symm⟩

theorem conv_evAll (rt : Registry) (d : Val) : ∀ (es : List Ast) (out : Except EvalErr (List Val)),
    Conv (fun n => evAll rt n d es) out ↔ AllEvals rt d es out
  | [], out => by
    rw [conv_succ]
    simp only [evAll_succ, evAllStep, conv_pure]
    exact ⟨fun h => h ▸ .nil, fun h => by cases h; rfl⟩
  | a :: es, out => by
    rw [conv_succ]
    simp only [evAll_succ, evAllStep, conv_bind (stable_ev _ _ _), conv_map (stable_evAll _ _ _),
      conv_evAll rt d es, ← evals_conv]
    constructor
    · rintro (⟨e, h, rfl⟩ | ⟨v, h, res, hres, rfl⟩)
      · exact .fail a es e h
      · have := AllEvals.step a es v res h hres
        cases res <;> exact this
    · intro h
      cases h with
      | fail _ _ e h => exact .inl ⟨e, h, rfl⟩
      | step _ _ v res h hres => exact .inr ⟨v, h, res, hres, by cases res <;> rfl⟩

theorem allEvals_iff {rt d es out} :
    AllEvals rt d es out ↔ out ≠ .error .fuel ∧ ∃ n, evAll rt n d es = out :=
  (conv_evAll rt d es out).symm.trans (conv_iff (stable_evAll rt d es))

/-- `BTreeMap::insert` of each key with its value, left to right -/
abbrev insertAll (acc : List (String × Val)) (ks : List String) (vs : List Val) : List (String × Val) :=
  (ks.zip vs).foldl (fun m kv => insertKV kv.1 kv.2 m) acc

theorem conv_evKVs (rt : Registry) (d : Val) : ∀ (kvs : List (String × Ast)) (acc : List (String × Val))
    (out' : Except EvalErr (List (String × Val))),
    Conv (fun n => evKVs rt n d kvs acc) out' ↔
      ∃ out, AllEvals rt d (kvs.map (·.2)) out ∧ out' = out.map (insertAll acc (kvs.map (·.1)))
  | [], acc, out' => by
    rw [conv_succ]
    simp only [evKVs_succ, evKVsStep, conv_pure]
    exact ⟨fun h => ⟨_, .nil, h⟩, fun ⟨_, h, e⟩ => by cases h; exact e⟩
  | (k, a) :: kvs, acc, out' => by
    rw [conv_succ]
    simp only [evKVs_succ, evKVsStep, conv_bind (stable_ev _ _ _), conv_evKVs rt d kvs, ← evals_conv,
      List.map_cons]
    constructor
    · rintro (⟨e, h, rfl⟩ | ⟨v, h, res, hres, rfl⟩)
      · exact ⟨_, .fail a _ e h, rfl⟩
      · exact ⟨_, .step a _ v res h hres, by cases res <;> rfl⟩
    · rintro ⟨_, h, rfl⟩
      cases h with
      | fail _ _ e h => exact .inl ⟨e, h, rfl⟩
      | step _ _ v res h hres => exact .inr ⟨v, h, res, hres, by cases res <;> rfl⟩

end Comp

open Comp in
/-- a projection over an array result applies the right-hand side to each element separately,
keeps order and drops nulls; over anything else it is null -/
theorem C11_projection (rt : Registry) (d : Val) (o : Nat) (l r : Ast) (res : Except EvalErr Val) :
    Evals rt d (.projection o l r) res ↔
      (∃ e, Evals rt d l (.error e) ∧ res = .error e) ∨
      (∃ v, Evals rt d l (.ok v) ∧ (∀ xs, v ≠ .arr xs) ∧ res = .ok .null) ∨
      (∃ xs out, Evals rt d l (.ok (.arr xs)) ∧ EachEvals rt r xs out ∧
        res = (match out with | .ok ys => .ok (.arr (ys.filter fun y => !y.isNull)) | .error e => .error e)) := by
  rw [evals_step]
  simp only [evStep, conv_bind (stable_ev _ _ _), evals_conv]
  refine or_congr_right ⟨?_, ?_⟩
  · rintro ⟨v, hv, h⟩
    cases v
    case arr xs =>
      obtain ⟨_, hw, rfl⟩ := (conv_map (stable_evEach rt xs r)).1 h
      obtain ⟨out, ho, rfl⟩ := (conv_evEach rt r xs _).1 hw
      exact .inr ⟨xs, out, hv, ho, by cases out <;> rfl⟩
    all_goals exact .inl ⟨_, hv, nofun, conv_pure.1 h⟩
  · rintro (⟨v, hv, hna, rfl⟩ | ⟨xs, out, hv, ho, rfl⟩)
    · refine ⟨v, hv, ?_⟩
      cases v
      case arr xs => exact absurd rfl (hna xs)
      all_goals exact conv_pure.2 rfl
    · exact ⟨_, hv, (conv_map (stable_evEach rt xs r)).2 ⟨_, (conv_evEach rt r xs _).2 ⟨out, ho, rfl⟩,
        by cases out <;> rfl⟩⟩

open Comp in
/-- a multi-select list is null on null data, else the tuple of its members' results in order;
the first failing member fails the whole -/
theorem C11_multilist (rt : Registry) (d : Val) (o : Nat) (es : List Ast) (res : Except EvalErr Val) :
    Evals rt d (.multiList o es) res ↔
      (d.isNull = true ∧ res = .ok .null) ∨
      (d.isNull = false ∧ ∃ out, AllEvals rt d es out ∧
        res = (match out with | .ok vs => .ok (.arr vs) | .error e => .error e)) := by
  rw [evals_step]
  simp only [evStep, conv_ite, conv_pure, conv_map (stable_evAll _ _ _), conv_evAll, Bool.not_eq_true]
  refine or_congr_right (and_congr_right fun _ => exists_congr fun out => and_congr_right fun _ => ?_)
  cases out <;> exact .rfl

open Comp in
/-- a multi-select hash is null on null data, else the record obtained by inserting each member's
result under its key, in order (a later duplicate key replaces an earlier one); the first failing
member fails the whole -/
theorem C11_multihash (rt : Registry) (d : Val) (o : Nat) (kvs : List (String × Ast))
    (res : Except EvalErr Val) :
    Evals rt d (.multiHash o kvs) res ↔
      (d.isNull = true ∧ res = .ok .null) ∨
      (d.isNull = false ∧ ∃ out, AllEvals rt d (kvs.map (·.2)) out ∧
        res = (match out with
          | .ok vs => .ok (.obj (((kvs.map (·.1)).zip vs).foldl (fun m kv => insertKV kv.1 kv.2 m) []))
          | .error e => .error e)) := by
  rw [evals_step]
  simp only [evStep, conv_ite, conv_pure, conv_map (stable_evKVs _ _ _ _), conv_evKVs, Bool.not_eq_true]
  refine or_congr_right (and_congr_right fun _ => ⟨?_, ?_⟩)
  · rintro ⟨_, ⟨out, ho, rfl⟩, rfl⟩
    exact ⟨out, ho, by cases out <;> rfl⟩
  · rintro ⟨out, ho, rfl⟩
    exact ⟨_, ⟨out, ho, rfl⟩, by cases out <;> rfl⟩

namespace Comp
theorem evals_leaf {rt d a v res} (h : ∀ n, evStep rt n d a = .ok v) : Evals rt d a res ↔ res = .ok v := by
  rw [evals_step]
  simp only [h, conv_pure]
end Comp

open Comp in
/-- leaves (non-vacuity of `Evals`): identity, field, literal and expression reference -/
theorem C11_identity (rt : Registry) (d : Val) (o : Nat) (res : Except EvalErr Val) :
    Evals rt d (.identity o) res ↔ res = .ok d :=
  evals_leaf fun _ => rfl

open Comp in
theorem C11_field (rt : Registry) (d : Val) (o : Nat) (k : String) (res : Except EvalErr Val) :
    Evals rt d (.field o k) res ↔ res = .ok (d.getField k) :=
  evals_leaf fun _ => rfl

open Comp in
theorem C11_literal (rt : Registry) (d : Val) (o : Nat) (v : Val) (res : Except EvalErr Val) :
    Evals rt d (.literal o v) res ↔ res = .ok v :=
  evals_leaf fun _ => rfl

open Comp in
theorem C11_expref (rt : Registry) (d : Val) (o : Nat) (a : Ast) (res : Except EvalErr Val) :
    Evals rt d (.expref o a) res ↔ res = .ok (.expref a) :=
  evals_leaf fun _ => rfl

end JmesVerif

#print axioms JmesVerif.interp_offset_irrelevant
#print axioms JmesVerif.interp_reoffset
#print axioms JmesVerif.C11_pipe
#print axioms JmesVerif.C11_not
#print axioms JmesVerif.C11_and
#print axioms JmesVerif.C11_or
#print axioms JmesVerif.C11_condition
#print axioms JmesVerif.C11_comparison
#print axioms JmesVerif.C11_flatten
#print axioms JmesVerif.C11_objectValues
#print axioms JmesVerif.C11_projection
#print axioms JmesVerif.C11_multilist
#print axioms JmesVerif.C11_multihash
#print axioms JmesVerif.C11_identity
#print axioms JmesVerif.C11_field
#print axioms JmesVerif.C11_literal
#print axioms JmesVerif.C11_expref
