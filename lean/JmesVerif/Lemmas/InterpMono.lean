import JmesVerif.Lemmas.Signature
import JmesVerif.Lemmas.Fuel
/-!
Fuel monotonicity of the interpreter model: a result that is not the out-of-fuel error is stable
under additional fuel.  One level of each function is a `>>=` of outcomes (`Lemmas/InterpStep.lean`),
and `>>=` preserves "the same unless out of fuel" (`Settled.bind`); `IMonoStep n` bundles the
one-step statement for all functions of the mutual block.
-/
namespace JmesVerif

structure IMonoStep (rt : Registry) (n : Nat) : Prop where
  interp : ∀ d a off, interp rt n d a off ≠ .error .fuel →
    interp rt (n+1) d a off = interp rt n d a off
  projectEach : ∀ xs a off, projectEach rt n xs a off ≠ .error .fuel →
    projectEach rt (n+1) xs a off = projectEach rt n xs a off
  interpAll : ∀ d es off, interpAll rt n d es off ≠ .error .fuel →
    interpAll rt (n+1) d es off = interpAll rt n d es off
  interpKVs : ∀ d kvs acc off, interpKVs rt n d kvs acc off ≠ .error .fuel →
    interpKVs rt (n+1) d kvs acc off = interpKVs rt n d kvs acc off
  mapExpref : ∀ xs a off, mapExpref rt n xs a off ≠ .error .fuel →
    mapExpref rt (n+1) xs a off = mapExpref rt n xs a off
  keysTyped : ∀ xs a ty inv off, keysTyped rt n xs a ty inv off ≠ .error .fuel →
    keysTyped rt (n+1) xs a ty inv off = keysTyped rt n xs a ty inv off
  callFn : ∀ f args off, callFn rt n f args off ≠ .error .fuel →
    callFn rt (n+1) f args off = callFn rt n f args off
  byExtreme : ∀ isMax xs a off, byExtreme rt n isMax xs a off ≠ .error .fuel →
    byExtreme rt (n+1) isMax xs a off = byExtreme rt n isMax xs a off

-- one arm of a function of the block unfolded in `h` (at `n`) and in the goal (at `n+1`): follow the
-- splits of `h`, then rewrite the nested calls with the step hypothesis `ih`
macro "imono_close" ih:ident h:ident : tactic => `(tactic| (
  simp only at $h:ident ⊢
  repeat' (split at $h:ident)
  all_goals (try (simp_all [($ih).interp, ($ih).projectEach, ($ih).interpAll, ($ih).interpKVs,
    ($ih).mapExpref, ($ih).keysTyped, ($ih).callFn, ($ih).byExtreme]; done))))

theorem IMonoStep.zero (rt : Registry) : IMonoStep rt 0 := by
  constructor <;> intros <;> simp_all [JmesVerif.interp, JmesVerif.projectEach, JmesVerif.interpAll,
    JmesVerif.interpKVs, JmesVerif.mapExpref, JmesVerif.keysTyped, JmesVerif.callFn, JmesVerif.byExtreme]

open Comp

/-- `y` is `x` unless `x` ran out of fuel -/
def Settled (x y : Except EvalErr α) : Prop := x ≠ .error .fuel → y = x

theorem Settled.refl (x : Except EvalErr α) : Settled x x := fun _ => rfl

theorem Settled.bind {x y : Except EvalErr α} {f g : α → Except EvalErr β} (h : Settled x y)
    (hf : ∀ v, Settled (f v) (g v)) : Settled (x >>= f) (y >>= g) := by
  intro hne
  cases x with
  | error e => rw [h fun e' => hne (e' ▸ rfl)]; rfl
  | ok v => rw [h nofun]; exact hf v hne

theorem Settled.ite {c : Prop} [Decidable c] {x y x' y' : Except EvalErr α} (h : Settled x y)
    (h' : Settled x' y') : Settled (if c then x else x') (if c then y else y') := by
  by_cases hc : c
  · rwa [if_pos hc, if_pos hc]
  · rwa [if_neg hc, if_neg hc]

theorem Settled.outcome {r r' : ERes α} (h : r ≠ .error .fuel → r' = r) : Settled (outcome r) (outcome r') :=
  fun hne => congrArg _ (h fun e => hne (e ▸ rfl))

/-- a step of the fuel induction, for a function that hands the offset back -/
theorem Settled.lift {x y : Except EvalErr α} {r r' : ERes α} {off : Nat} (h : Settled x y)
    (hr : r = lift off x) (hr' : r' = lift off y) (hne : r ≠ .error .fuel) : r' = r := by
  subst hr hr'
  rw [h fun e => hne (e ▸ rfl)]

section step
variable {rt : Registry} {n : Nat} (ih : IMonoStep rt n)
include ih

theorem IMonoStep.ev (d : Val) (a : Ast) : Settled (ev rt n d a) (ev rt (n+1) d a) := .outcome (ih.interp d a 0)
theorem IMonoStep.evEach (xs : List Val) (a : Ast) : Settled (evEach rt n xs a) (evEach rt (n+1) xs a) :=
  .outcome (ih.projectEach xs a 0)
theorem IMonoStep.evAll (d : Val) (es : List Ast) : Settled (evAll rt n d es) (evAll rt (n+1) d es) :=
  .outcome (ih.interpAll d es 0)
theorem IMonoStep.evKVs (d : Val) (kvs : List (String × Ast)) (acc : List (String × Val)) :
    Settled (evKVs rt n d kvs acc) (evKVs rt (n+1) d kvs acc) := .outcome (ih.interpKVs d kvs acc 0)
theorem IMonoStep.evMap (xs : List Val) (a : Ast) : Settled (evMap rt n xs a) (evMap rt (n+1) xs a) :=
  .outcome (ih.mapExpref xs a 0)
theorem IMonoStep.evKeys (xs : List Val) (a : Ast) (ty : JType) (inv off : Nat) :
    Settled (evKeys rt n xs a ty inv off) (evKeys rt (n+1) xs a ty inv off) := .outcome (ih.keysTyped xs a ty inv off)

theorem evStep_settled (d : Val) (a : Ast) : Settled (evStep rt n d a) (evStep rt (n+1) d a) := by
  cases a with
  | field | identity | literal | expref | index | slice => exact .refl _
  | subexpr o l r => exact (ih.ev d l).bind fun v => ih.ev v r
  | or o l r | and o l r => exact (ih.ev d l).bind fun v => .ite (.refl _) (ih.ev d r)
  | condition o p t => exact (ih.ev d p).bind fun c => .ite (ih.ev d t) (.refl _)
  | not o a | objectValues o a | flatten o a => exact (ih.ev d a).bind fun _ => .refl _
  | comparison o c l r => exact (ih.ev d l).bind fun _ => (ih.ev d r).bind fun _ => .refl _
  | projection o l r =>
    refine (ih.ev d l).bind fun v => ?_
    cases v
    case arr xs => exact (ih.evEach xs r).bind fun _ => .refl _
    all_goals exact .refl _
  | multiList o es => exact .ite (.refl _) ((ih.evAll d es).bind fun _ => .refl _)
  | multiHash o kvs => exact .ite (.refl _) ((ih.evKVs d kvs []).bind fun _ => .refl _)
  | function o name args =>
    refine (ih.evAll d args).bind fun vs => ?_
    cases rt.get name with
    | none => exact .refl _
    | some f => exact .outcome (ih.callFn f vs o)

theorem keyLoop_settled (x : Val) (rest : List Val) (a : Ast) (off : Nat) (expected : String)
    (f : Val → List Val → Val) :
    Settled (keyLoop rt n x rest a off expected f) (keyLoop rt (n+1) x rest a off expected f) :=
  (ih.ev x a).bind fun _ => .ite (.refl _) ((ih.evKeys rest a _ 1 off).bind fun _ => .refl _)

theorem callFn_step (f : Fn) (args : List Val) (off : Nat) (h : callFn rt (n+1) f args off ≠ .error .fuel) :
    callFn rt (n+2) f args off = callFn rt (n+1) f args off := by
  cases f with
  | custom id sig => cases sig <;> simp only [callFn]
  | builtin b =>
    rcases callFn_shape b args off with ⟨e, _, he⟩ | ⟨_, _, hp⟩ | ⟨rfl, a, xs, rfl⟩ | ⟨hb, a, xs, rfl⟩
    · rw [he, he]
    · rw [hp, hp]
    · exact ((ih.evMap xs a).bind fun _ => .refl _).lift (callFn_map_eq ..) (callFn_map_eq ..) h
    · rcases hb with rfl | rfl | rfl
      · refine Settled.lift ?_ (callFn_sortBy_eq ..) (callFn_sortBy_eq ..) h
        cases xs with
        | nil => exact .refl _
        | cons x rest => exact keyLoop_settled ih _ _ _ _ _ _
      · rw [callFn_maxBy] at h ⊢
        rw [callFn_maxBy]
        exact ih.byExtreme _ _ _ _ h
      · rw [callFn_minBy] at h ⊢
        rw [callFn_minBy]
        exact ih.byExtreme _ _ _ _ h

end step

theorem iMonoStep_all (rt : Registry) : ∀ n, IMonoStep rt n
  | 0 => IMonoStep.zero rt
  | n + 1 => by
    have ih := iMonoStep_all rt n
    have k := keep_all rt n
    have k' := keep_all rt (n + 1)
    refine ⟨fun d a off => (evStep_settled ih d a).lift (interp_succ k d a off) (interp_succ k' d a off),
      fun xs a off => Settled.lift ?_ (projectEach_succ k xs a off) (projectEach_succ k' xs a off),
      fun d es off => Settled.lift ?_ (interpAll_succ k d es off) (interpAll_succ k' d es off),
      fun d kvs acc off => Settled.lift ?_ (interpKVs_succ k d kvs acc off) (interpKVs_succ k' d kvs acc off),
      fun xs a off => Settled.lift ?_ (mapExpref_succ k xs a off) (mapExpref_succ k' xs a off),
      fun xs a ty inv off => Settled.lift ?_ (keysTyped_succ k xs a ty inv off) (keysTyped_succ k' xs a ty inv off),
      callFn_step ih,
      fun isMax xs a off => Settled.lift ?_ (byExtreme_succ rt n isMax xs a off) (byExtreme_succ rt (n+1) isMax xs a off)⟩
    · cases xs with
      | nil => exact .refl _
      | cons x rest => exact (ih.ev x a).bind fun _ => (ih.evEach rest a).bind fun _ => .refl _
    · cases es with
      | nil => exact .refl _
      | cons e rest => exact (ih.ev d e).bind fun _ => (ih.evAll d rest).bind fun _ => .refl _
    · rcases kvs with _ | ⟨⟨k, e⟩, rest⟩
      · exact .refl _
      · exact (ih.ev d e).bind fun _ => ih.evKVs d rest _
    · cases xs with
      | nil => exact .refl _
      | cons x rest => exact (ih.ev x a).bind fun _ => (ih.evMap rest a).bind fun _ => .refl _
    · cases xs with
      | nil => exact .refl _
      | cons x rest =>
        exact (ih.ev x a).bind fun _ => .ite (.refl _) ((ih.evKeys rest a ty _ off).bind fun _ => .refl _)
    · cases xs with
      | nil => exact .refl _
      | cons x rest => exact keyLoop_settled ih _ _ _ _ _ _

/-- two runs of a fuel-monotone function agree unless one of them ran out of fuel -/
theorem imono_det {α : Type} (f : Nat → α) (bad : α) (step : ∀ n, f n ≠ bad → f (n+1) = f n)
    (n : Nat) (r : α) (h : f n = r) (hr : r ≠ bad) (m : Nat) : f m = bad ∨ f m = r := by
  by_cases hm : f m = bad
  · exact .inl hm
  · right
    rcases Nat.le_total n m with hle | hle
    · exact mono_iter f bad step n r h hr m hle
    · rw [← h]; exact (mono_iter f bad step m (f m) rfl hm n hle).symm

theorem interp_mono (rt : Registry) (fuel : Nat) (d : Val) (a : Ast) (off : Nat) (r : ERes Val)
    (h : interp rt fuel d a off = r) (hr : r ≠ .error .fuel) :
    ∀ fuel', fuel ≤ fuel' → interp rt fuel' d a off = r :=
  mono_iter (fun n => interp rt n d a off) _ (fun n => (iMonoStep_all rt n).interp d a off) fuel r h hr

theorem interp_det (rt : Registry) (fuel : Nat) (d : Val) (a : Ast) (off : Nat) (r : ERes Val)
    (h : interp rt fuel d a off = r) (hr : r ≠ .error .fuel) (fuel' : Nat) :
    interp rt fuel' d a off = .error .fuel ∨ interp rt fuel' d a off = r :=
  imono_det (fun n => interp rt n d a off) _ (fun n => (iMonoStep_all rt n).interp d a off) fuel r h hr fuel'

theorem projectEach_det (rt : Registry) (fuel : Nat) (xs : List Val) (a : Ast) (off : Nat) (r : ERes (List Val))
    (h : projectEach rt fuel xs a off = r) (hr : r ≠ .error .fuel) (fuel' : Nat) :
    projectEach rt fuel' xs a off = .error .fuel ∨ projectEach rt fuel' xs a off = r :=
  imono_det (fun n => projectEach rt n xs a off) _ (fun n => (iMonoStep_all rt n).projectEach xs a off) fuel r h hr fuel'

theorem interpAll_det (rt : Registry) (fuel : Nat) (d : Val) (es : List Ast) (off : Nat) (r : ERes (List Val))
    (h : interpAll rt fuel d es off = r) (hr : r ≠ .error .fuel) (fuel' : Nat) :
    interpAll rt fuel' d es off = .error .fuel ∨ interpAll rt fuel' d es off = r :=
  imono_det (fun n => interpAll rt n d es off) _ (fun n => (iMonoStep_all rt n).interpAll d es off) fuel r h hr fuel'

theorem interpKVs_det (rt : Registry) (fuel : Nat) (d : Val) (kvs : List (String × Ast)) (acc : List (String × Val)) (off : Nat) (r : ERes (List (String × Val)))
    (h : interpKVs rt fuel d kvs acc off = r) (hr : r ≠ .error .fuel) (fuel' : Nat) :
    interpKVs rt fuel' d kvs acc off = .error .fuel ∨ interpKVs rt fuel' d kvs acc off = r :=
  imono_det (fun n => interpKVs rt n d kvs acc off) _ (fun n => (iMonoStep_all rt n).interpKVs d kvs acc off) fuel r h hr fuel'

theorem mapExpref_det (rt : Registry) (fuel : Nat) (xs : List Val) (a : Ast) (off : Nat) (r : ERes (List Val))
    (h : mapExpref rt fuel xs a off = r) (hr : r ≠ .error .fuel) (fuel' : Nat) :
    mapExpref rt fuel' xs a off = .error .fuel ∨ mapExpref rt fuel' xs a off = r :=
  imono_det (fun n => mapExpref rt n xs a off) _ (fun n => (iMonoStep_all rt n).mapExpref xs a off) fuel r h hr fuel'

theorem keysTyped_det (rt : Registry) (fuel : Nat) (xs : List Val) (a : Ast) (ty : JType) (inv : Nat) (off : Nat) (r : ERes (List Val))
    (h : keysTyped rt fuel xs a ty inv off = r) (hr : r ≠ .error .fuel) (fuel' : Nat) :
    keysTyped rt fuel' xs a ty inv off = .error .fuel ∨ keysTyped rt fuel' xs a ty inv off = r :=
  imono_det (fun n => keysTyped rt n xs a ty inv off) _ (fun n => (iMonoStep_all rt n).keysTyped xs a ty inv off) fuel r h hr fuel'

theorem callFn_mono (rt : Registry) (fuel : Nat) (f : Fn) (args : List Val) (off : Nat) (r : ERes Val)
    (h : callFn rt fuel f args off = r) (hr : r ≠ .error .fuel) :
    ∀ fuel', fuel ≤ fuel' → callFn rt fuel' f args off = r :=
  mono_iter (fun n => callFn rt n f args off) _ (fun n => (iMonoStep_all rt n).callFn f args off) fuel r h hr

theorem callFn_det (rt : Registry) (fuel : Nat) (f : Fn) (args : List Val) (off : Nat) (r : ERes Val)
    (h : callFn rt fuel f args off = r) (hr : r ≠ .error .fuel) (fuel' : Nat) :
    callFn rt fuel' f args off = .error .fuel ∨ callFn rt fuel' f args off = r :=
  imono_det (fun n => callFn rt n f args off) _ (fun n => (iMonoStep_all rt n).callFn f args off) fuel r h hr fuel'

theorem byExtreme_mono (rt : Registry) (fuel : Nat) (isMax : Bool) (xs : List Val) (a : Ast) (off : Nat) (r : ERes Val)
    (h : byExtreme rt fuel isMax xs a off = r) (hr : r ≠ .error .fuel) :
    ∀ fuel', fuel ≤ fuel' → byExtreme rt fuel' isMax xs a off = r :=
  mono_iter (fun n => byExtreme rt n isMax xs a off) _ (fun n => (iMonoStep_all rt n).byExtreme isMax xs a off) fuel r h hr

theorem byExtreme_det (rt : Registry) (fuel : Nat) (isMax : Bool) (xs : List Val) (a : Ast) (off : Nat) (r : ERes Val)
    (h : byExtreme rt fuel isMax xs a off = r) (hr : r ≠ .error .fuel) (fuel' : Nat) :
    byExtreme rt fuel' isMax xs a off = .error .fuel ∨ byExtreme rt fuel' isMax xs a off = r :=
  imono_det (fun n => byExtreme rt n isMax xs a off) _ (fun n => (iMonoStep_all rt n).byExtreme isMax xs a off) fuel r h hr fuel'

namespace Comp

/-- a result other than the out-of-fuel error is kept under more fuel -/
def Stable (f : Nat → Except EvalErr α) : Prop :=
  ∀ n r, f n = r → r ≠ .error .fuel → ∀ m, n ≤ m → f m = r

theorem Stable.of_step {f : Nat → ERes α} (step : ∀ n, f n ≠ .error .fuel → f (n+1) = f n) :
    Stable (fun n => outcome (f n)) :=
  fun n _ hr hne m hm => by
    subst hr
    exact congrArg _ (mono_iter f _ step n _ rfl (fun e => hne (congrArg JmesVerif.outcome e)) m hm)

theorem stable_ev (rt d a) : Stable (fun n => ev rt n d a) := .of_step fun n => (iMonoStep_all rt n).interp d a 0
theorem stable_evEach (rt xs a) : Stable (fun n => evEach rt n xs a) :=
  .of_step fun n => (iMonoStep_all rt n).projectEach xs a 0
theorem stable_evAll (rt d es) : Stable (fun n => evAll rt n d es) :=
  .of_step fun n => (iMonoStep_all rt n).interpAll d es 0
theorem stable_evKVs (rt d kvs acc) : Stable (fun n => evKVs rt n d kvs acc) :=
  .of_step fun n => (iMonoStep_all rt n).interpKVs d kvs acc 0
theorem stable_evMap (rt xs a) : Stable (fun n => evMap rt n xs a) :=
  .of_step fun n => (iMonoStep_all rt n).mapExpref xs a 0
theorem stable_evKeys (rt xs a ty inv off) : Stable (fun n => evKeys rt n xs a ty inv off) :=
  .of_step fun n => (iMonoStep_all rt n).keysTyped xs a ty inv off

end Comp

end JmesVerif
