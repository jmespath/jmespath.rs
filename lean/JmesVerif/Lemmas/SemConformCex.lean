import JmesVerif.Lemmas.SemConform
/-
Why `C01_conformance` needs a bound that accounts for flatten: hereditary smallness of the
document (every array ≤ i32::MAX) is not preserved by `[]`, which concatenates.  A machine-checked
counterexample to the unconditional statement.
-/
namespace JmesVerif
open Spec

/-- on an array longer than `i32::MAX` the slice loop `i = i.saturating_add(step)` never reaches
`len`: the model reports the hang as `Fault.fuel` -/
theorem loopUp_stuck {α : Type} (xs : List α) (hlen : I32_MAX < (xs.length : Int)) :
    ∀ (fuel : Nat) (i : Int), 0 ≤ i → i ≤ I32_MAX → loopUp xs xs.length 1 fuel i = .error .fuel
  | 0, _, _, _ => by simp [loopUp]
  | fuel + 1, i, h0, h1 => by
    have hi : i.toNat < xs.length := by unfold I32_MAX at *; omega
    have ha0 : 0 ≤ addI32 i 1 := by unfold addI32 I32_MAX I32_MIN at *; split <;> (try split) <;> omega
    have ha1 : addI32 i 1 ≤ I32_MAX := by unfold addI32 I32_MAX I32_MIN at *; split <;> (try split) <;> omega
    have ih := loopUp_stuck xs hlen fuel (addI32 i 1) ha0 ha1
    have hlt : i < (xs.length : Int) := by unfold I32_MAX at *; omega
    have hn : ¬ i < 0 := by omega
    simp only [loopUp, hlt, if_true, hn, if_false, List.getElem?_eq_getElem hi, ih]

theorem sliceList_stuck {α : Type} (xs : List α) (hlen : I32_MAX < (xs.length : Int)) :
    sliceList xs none none 1 = .error .fuel := by
  unfold sliceList
  have h0 : ¬ (xs.length : Int) = 0 := by unfold I32_MAX at hlen; omega
  simp only [h0, if_false, sliceA, sliceB]
  simp only [show (1 : Int) > 0 by omega, if_true, show ¬ (1 : Int) < 0 by omega, if_false]
  exact loopUp_stuck xs hlen _ 0 (by omega) (by unfold I32_MAX; omega)

theorem projectEach_id (rt : Registry) : ∀ (fuel : Nat) (xs : List Val) (off : Nat),
    (∀ x ∈ xs, x.isNull = false) →
    projectEach rt fuel xs (.identity 0) off = .error .fuel ∨
    projectEach rt fuel xs (.identity 0) off = .ok (xs, off)
  | 0, _, _, _ => Or.inl (by simp [projectEach])
  | fuel + 1, [], off, _ => Or.inr (by simp [projectEach])
  | fuel + 1, x :: rest, off, h => by
    simp only [projectEach]
    cases fuel with
    | zero => left; simp [interp]
    | succ k =>
      simp only [interp]
      rcases projectEach_id rt (k + 1) rest off (fun y hy => h y (by simp [hy])) with h1 | h1
      · left; rw [h1]
      · right; rw [h1]; simp [h x (by simp)]

/-- the tree of `[] | [:]` -/
def cexAst : Ast :=
  .subexpr 0 (.projection 0 (.flatten 0 (.identity 0)) (.identity 0))
    (.projection 0 (.slice 0 none none 1) (.identity 0))

def cexExpr : Expr :=
  .mk (.flatten .none) [.pipe (.mk (.slice ⟨none, none, none⟩ .none) [])]

theorem cexExpr_ast : cexExpr.ast = cexAst := rfl

theorem cex_general (rt : Registry) (ys : List Val) (hnn : ∀ y ∈ ys, y.isNull = false)
    (hbig : I32_MAX < ((ys ++ ys).length : Int)) (fuel off : Nat) :
    resultOf (interp rt fuel (.arr [.arr ys, .arr ys]) cexAst off) = none := by
  unfold cexAst
  rcases fuel with _ | _ | _ | _ | n
  · simp [interp, resultOf]
  · simp [interp, resultOf]
  · simp [interp, resultOf]
  · simp [interp, resultOf]
  · simp only [interp, List.flatMap_cons, List.flatMap_nil, List.append_nil]
    rcases projectEach_id rt (n + 2) (ys ++ ys) off
        (fun y hy => hnn y (by rcases List.mem_append.mp hy with h | h <;> exact h)) with h1 | h1
    · rw [h1]; rfl
    · rw [h1]
      simp only [interp, show ¬ ((1 : Int) = 0) by omega, if_false, sliceList_stuck _ hbig]
      rfl

/-- stated for any list of 2^30 `true`s, so that the proof never unfolds `List.replicate 1073741824 _` -/
theorem cex_of_list (ys : List Val) (hmem : ∀ y ∈ ys, y = .bool true) (hlen : ys.length = 1073741824) :
    (Val.arr [.arr ys, .arr ys]).isJson = true ∧ (Val.arr [.arr ys, .arr ys]).Small ∧
    (∃ v, Sem.expr (Val.arr [.arr ys, .arr ys]) cexExpr = some v) ∧
    ∀ (rt : Registry) (fuel off : Nat),
      resultOf (interp rt fuel (Val.arr [.arr ys, .arr ys]) cexExpr.ast off) ≠
        some (Sem.expr (Val.arr [.arr ys, .arr ys]) cexExpr) := by
  have hx' : ∀ x ∈ [Val.arr ys, Val.arr ys], x = .arr ys := by
    intro x hx
    rcases List.mem_cons.mp hx with h | hx
    · exact h
    · rcases List.mem_cons.mp hx with h | hx
      · exact h
      · cases hx
  refine ⟨?_, ?_, ?_, ?_⟩
  · refine arr_json.mpr fun x hx => ?_
    rw [hx' x hx]
    exact arr_json.mpr fun y hy => by rw [hmem y hy]; rfl
  · refine arr_within.mpr ⟨by simp [CAP], fun x hx => ?_⟩
    rw [hx' x hx]
    exact arr_within.mpr ⟨by rw [hlen]; decide, fun y hy => by rw [hmem y hy]; trivial⟩
  · simp only [cexExpr, Sem.expr, Sem.nud, Sem.rhs, Sem.leds, Sem.led]
    have h1 : ∀ xs : List Val, Sem.optMapM (fun x => some x) xs = some xs := by
      intro xs; induction xs with
      | nil => rfl
      | cons x r ih => simp [Sem.optMapM, ih]
    simp only [h1, Option.map_some, SliceHdr.step]
    simp
  · intro rt fuel off
    rw [cexExpr_ast, cex_general rt ys (fun y hy => by rw [hmem y hy]; rfl)
      (by rw [List.length_append, hlen]; unfold I32_MAX; omega)]
    simp

/-- **The unconditional statement is false**: a core expression (`[] | [:]`, no literals, no
multi-selects) and a JSON document all of whose arrays have at most 2^30 ≤ i32::MAX elements, on
which the interpreter never returns what the semantics says (the slice loop hangs: the model
reports `Fault.fuel`), whatever the fuel. -/
theorem C01_unconditional_false :
    ∃ (e : Expr) (d : Val), Sem.exprCore e = true ∧ e.Small ∧ d.isJson = true ∧ d.Small ∧
      (∃ v, Sem.expr d e = some v) ∧
      ∀ (rt : Registry) (fuel off : Nat),
        resultOf (interp rt fuel d e.ast off) ≠ some (Sem.expr d e) :=
  have h := cex_of_list (List.replicate 1073741824 (.bool true))
    (fun _ hy => (List.mem_replicate.mp hy).2) List.length_replicate
  ⟨cexExpr, _, rfl, by simp [cexExpr, Expr.Small, Nud.Small, Rhs.Small, ledsSmall, Led.Small],
    h.1, h.2.1, h.2.2.1, h.2.2.2⟩

end JmesVerif

#print axioms JmesVerif.C01_unconditional_false
