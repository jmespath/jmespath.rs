import JmesVerif.Lemmas.InterpStep
import JmesVerif.Spec.Functions
/-!
Signatures and the builtins behind them.  Part 1: when `Sig.validate` succeeds, which error it gives
otherwise, and that validity of a value depends only on its type class (`Val.cls`).  Part 2: the argument
lists a builtin's signature lets through (`Builtin.Accepts`), the declared result types
(`Builtin.resultTypes`) and the only failure (`pure_spec`) of the 22 builtins that take no expression
reference, the guard of a custom function (`custom_guard`), and `callFn` on the four that take one:
the body that runs (`callFn_map`, `keyLoop`, `callFn_shape`) and where a panic inside it comes from
(`ExprefPanics`, for C05).
-/
namespace JmesVerif
open Spec.Fn (SameKind)
open Comp (ev evKeys evMap lift)

/-! ## Part 1 — the signature validator -/

/-- the parameter type that governs argument position k -/
def Sig.param (s : Sig) (k : Nat) : Option ArgT :=
  match s.inputs[k]? with
  | some t => some t
  | none => s.variadic

def Sig.arityOk (s : Sig) (n : Nat) : Bool :=
  if s.variadic.isSome then decide (s.inputs.length ≤ n) else decide (n = s.inputs.length)

theorem Sig.validateArgs_cons (s : Sig) (off k : Nat) (v : Val) (vs : List Val) :
    s.validateArgs off k (v :: vs) =
      match s.param k with
      | none => .error (.panic "index out of bounds: self.inputs[k]")
      | some t =>
        if t.isValid v then s.validateArgs off (k + 1) vs
        else .error (.runtime (.invalidType t.name v.type.name k) off) := by
  simp only [Sig.validateArgs, Sig.param]
  rfl

theorem Sig.validateArity_ok_iff (s : Sig) (n off : Nat) :
    s.validateArity n off = .ok () ↔ s.arityOk n = true := by
  unfold Sig.validateArity Sig.arityOk
  by_cases hv : s.variadic.isSome = true
  · by_cases h : s.inputs.length ≤ n <;> simp [hv, h]
  · by_cases h : n = s.inputs.length
    · simp [hv, h]
    · by_cases h2 : n < s.inputs.length <;> simp [hv, h, h2]

theorem Sig.validateArity_error (s : Sig) (n off : Nat) (h : s.arityOk n = false) :
    s.validateArity n off =
      .error (.runtime (if n < s.inputs.length then .notEnough s.inputs.length n
                        else .tooMany s.inputs.length n) off) := by
  unfold Sig.validateArity
  unfold Sig.arityOk at h
  by_cases hv : s.variadic.isSome = true
  · simp only [hv, if_true, decide_eq_false_iff_not, Nat.not_le] at h
    have h' : ¬ n ≥ s.inputs.length := by omega
    simp [hv, h, h']
  · simp only [hv, Bool.false_eq_true, if_false, decide_eq_false_iff_not] at h
    by_cases h2 : n < s.inputs.length <;> simp [hv, h, h2]

theorem validate_arity_error (s : Sig) (args : List Val) (off : Nat)
    (h : s.arityOk args.length = false) :
    s.validate args off =
      .error (.runtime (if args.length < s.inputs.length then .notEnough s.inputs.length args.length
                        else .tooMany s.inputs.length args.length) off) := by
  unfold Sig.validate
  rw [Sig.validateArity_error s _ off h]

theorem validate_of_arityOk (s : Sig) (args : List Val) (off : Nat)
    (h : s.arityOk args.length = true) :
    s.validate args off = s.validateArgs off 0 args := by
  unfold Sig.validate
  have := (Sig.validateArity_ok_iff s args.length off).2 h
  rw [this]

/-- the arity rule guarantees that every argument position has a governing parameter type -/
theorem Sig.param_isSome_of_arityOk (s : Sig) (n : Nat) (h : s.arityOk n = true) (k : Nat)
    (hk : k < n) : ∃ t, s.param k = some t := by
  unfold Sig.arityOk at h
  unfold Sig.param
  by_cases hv : s.variadic.isSome = true
  · cases hi : s.inputs[k]? with
    | some t => exact ⟨t, rfl⟩
    | none =>
      obtain ⟨t, ht⟩ := Option.isSome_iff_exists.1 hv
      exact ⟨t, by simp [ht]⟩
  · simp only [hv, Bool.false_eq_true, if_false, decide_eq_true_eq] at h
    have hk' : k < s.inputs.length := by omega
    exact ⟨s.inputs[k], by simp [List.getElem?_eq_getElem hk']⟩

theorem forall_getElem?_cons {α : Type} {Q : Nat → α → Prop} (a : α) (as : List α) :
    (∀ j v, (a :: as)[j]? = some v → Q j v) ↔ Q 0 a ∧ ∀ j v, as[j]? = some v → Q (j + 1) v := by
  constructor
  · exact fun h => ⟨h 0 a rfl, fun j v hj => h (j + 1) v hj⟩
  · rintro ⟨h0, hs⟩ j v hj
    cases j with
    | zero => cases hj; exact h0
    | succ j => exact hs j v hj

theorem Sig.validateArgs_ok_iff (s : Sig) (off : Nat) (vs : List Val) : ∀ k : Nat,
    s.validateArgs off k vs = .ok () ↔
      ∀ j v, vs[j]? = some v → ∃ t, s.param (k + j) = some t ∧ t.isValid v = true := by
  induction vs with
  | nil => intro k; simp [Sig.validateArgs]
  | cons a as ih =>
    intro k
    rw [Sig.validateArgs_cons, forall_getElem?_cons]
    simp only [Nat.add_zero, ← Nat.add_assoc, Nat.add_right_comm k _ 1, ← ih (k + 1)]
    cases s.param k with
    | none => simp
    | some t => by_cases hv : t.isValid a = true <;> simp [hv]

theorem validate_ok_iff (s : Sig) (args : List Val) (off : Nat) :
    s.validate args off = .ok () ↔
      s.arityOk args.length = true ∧
        ∀ k v, args[k]? = some v → ∃ t, s.param k = some t ∧ t.isValid v = true := by
  by_cases ha : s.arityOk args.length = true
  · rw [validate_of_arityOk s args off ha, Sig.validateArgs_ok_iff]
    simp [ha]
  · have ha' : s.arityOk args.length = false := by simpa using ha
    rw [validate_arity_error s args off ha']
    simp [ha']

theorem Sig.validateArgs_type_error (s : Sig) (off : Nat) (vs : List Val) : ∀ (k0 j : Nat) (v : Val)
    (t : ArgT), vs[j]? = some v → s.param (k0 + j) = some t → t.isValid v = false →
    (∀ i < j, ∀ w, vs[i]? = some w → ∃ u, s.param (k0 + i) = some u ∧ u.isValid w = true) →
    s.validateArgs off k0 vs = .error (.runtime (.invalidType t.name v.type.name (k0 + j)) off) := by
  induction vs with
  | nil => intro k0 j v t hj; simp at hj
  | cons a as ih =>
    intro k0 j v t hj ht hbad hfirst
    rw [Sig.validateArgs_cons]
    cases j with
    | zero =>
      simp only [List.getElem?_cons_zero, Option.some.injEq] at hj
      subst hj
      simp only [Nat.add_zero] at ht ⊢
      simp [ht, hbad]
    | succ j =>
      simp only [List.getElem?_cons_succ] at hj
      obtain ⟨u, hu, hvu⟩ := hfirst 0 (by omega) a (by simp)
      simp only [Nat.add_zero] at hu
      simp only [hu, hvu, if_true]
      have := ih (k0 + 1) j v t hj (by rw [← ht]; congr 1; omega) hbad (by
        intro i hi w hw
        obtain ⟨u', hu', hvu'⟩ := hfirst (i + 1) (by omega) w (by simpa using hw)
        exact ⟨u', by rw [← hu']; congr 1; omega, hvu'⟩)
      rw [this]
      congr 3; omega

/-- the loop never reaches its out-of-bounds arm when every position has a parameter type -/
theorem Sig.validateArgs_error (s : Sig) (off : Nat) (vs : List Val) : ∀ (k : Nat) (e : EvalErr),
    (∀ j v, vs[j]? = some v → ∃ t, s.param (k + j) = some t) →
    s.validateArgs off k vs = .error e → ∃ r, e = .runtime r off := by
  induction vs with
  | nil => intro k e _ h; cases h
  | cons a as ih =>
    intro k e hp h
    obtain ⟨⟨t, ht⟩, hp⟩ := (forall_getElem?_cons a as).1 hp
    rw [Sig.validateArgs_cons, show s.param k = some t from ht] at h
    dsimp only at h
    by_cases hv : t.isValid a = true
    · rw [if_pos hv] at h
      exact ih (k + 1) e (fun j v hj => by rw [Nat.add_right_comm, Nat.add_assoc]; exact hp j v hj) h
    · rw [if_neg hv] at h
      cases h
      exact ⟨_, rfl⟩

/-- every error of the validator is a runtime error carrying the offset it was given -/
theorem validate_error_offset (s : Sig) (args : List Val) (off : Nat) (e : EvalErr)
    (h : s.validate args off = .error e) : ∃ r, e = .runtime r off := by
  by_cases ha : s.arityOk args.length = true
  · rw [validate_of_arityOk s args off ha] at h
    refine Sig.validateArgs_error s off args 0 e (fun j v hj => ?_) h
    rw [Nat.zero_add]
    exact Sig.param_isSome_of_arityOk s _ ha j (List.getElem?_eq_some_iff.1 hj).1
  · have ha' : s.arityOk args.length = false := by simpa using ha
    rw [validate_arity_error s args off ha'] at h
    simp only [Except.error.injEq] at h
    exact ⟨_, h.symm⟩

theorem validate_no_panic (s : Sig) (args : List Val) (off : Nat) (m : String) :
    s.validate args off ≠ .error (.panic m) := by
  intro h
  obtain ⟨r, hr⟩ := validate_error_offset s args off _ h
  cases hr

/-! ### validity depends only on the type class of a value -/

/-- type tag, and for arrays the list of element type tags -/
def Val.cls : Val → JType × List JType
  | .arr xs => (.array, xs.map Val.type)
  | v => (v.type, [])

/-- a base parameter type: neither `typedArray` nor `union` -/
def ArgT.base : ArgT → Bool
  | .typedArray _ | .union _ => false
  | _ => true

/-- a base type or an array of a base type -/
def ArgT.simple : ArgT → Bool
  | .typedArray t => t.base
  | .union _ => false
  | _ => true

/-- a parameter type as the builtins use them: a base type, an array of a base type, or a union
of those -/
def ArgT.flat : ArgT → Bool
  | .union ts => ts.all ArgT.simple
  | t => t.simple

theorem Val.isNull_eq_type (v : Val) : v.isNull = (v.type == .null) := by
  cases v <;> rfl

theorem isValid_base_type (t : ArgT) (ht : t.base = true) (v w : Val) (h : v.type = w.type) :
    t.isValid v = t.isValid w := by
  cases t <;> simp_all [ArgT.isValid, ArgT.base, Val.isNull_eq_type]

theorem allValid_iff (t : ArgT) (xs : List Val) :
    allValid t xs = true ↔ ∀ x ∈ xs, t.isValid x = true := by
  induction xs with
  | nil => simp [allValid]
  | cons a as ih => simp [allValid, ih]

theorem anyValid_iff (ts : List ArgT) (v : Val) :
    anyValid ts v = true ↔ ∃ t ∈ ts, t.isValid v = true := by
  induction ts with
  | nil => simp [anyValid]
  | cons a as ih => simp [anyValid, ih]

theorem allValid_base_types (t : ArgT) (ht : t.base = true) (xs : List Val) : ∀ ys : List Val,
    xs.map Val.type = ys.map Val.type → allValid t xs = allValid t ys := by
  induction xs with
  | nil => intro ys h; cases ys with
    | nil => rfl
    | cons b bs => simp at h
  | cons a as ih =>
    intro ys h
    cases ys with
    | nil => simp at h
    | cons b bs =>
      simp only [List.map_cons, List.cons.injEq] at h
      simp only [allValid, isValid_base_type t ht a b h.1, ih bs h.2]

theorem Val.cls_fst (v : Val) : v.cls.1 = v.type := by
  cases v <;> rfl

theorem isValid_simple_cls (t : ArgT) (ht : t.simple = true) (v w : Val) (h : v.cls = w.cls) :
    t.isValid v = t.isValid w := by
  have hty : v.type = w.type := by rw [← Val.cls_fst, ← Val.cls_fst, h]
  cases t with
  | typedArray u =>
    simp only [ArgT.simple] at ht
    cases v <;> cases w <;> simp_all [Val.cls, Val.type, ArgT.isValid]
    exact allValid_base_types u ht _ _ h
  | union ts => simp [ArgT.simple] at ht
  | _ => exact isValid_base_type _ rfl v w hty

theorem anyValid_simple_cls (ts : List ArgT) (hts : ts.all ArgT.simple = true) (v w : Val)
    (h : v.cls = w.cls) : anyValid ts v = anyValid ts w := by
  induction ts with
  | nil => simp [anyValid]
  | cons a as ih =>
    simp only [List.all_cons, Bool.and_eq_true] at hts
    simp only [anyValid, isValid_simple_cls a hts.1 v w h, ih hts.2]

theorem isValid_depends_on_cls (t : ArgT) (ht : t.flat = true) (v w : Val) (h : v.cls = w.cls) :
    t.isValid v = t.isValid w := by
  cases t with
  | union ts =>
    simp only [ArgT.flat] at ht
    simp only [ArgT.isValid]
    exact anyValid_simple_cls ts ht v w h
  | typedArray u => exact isValid_simple_cls _ (by simpa [ArgT.flat] using ht) v w h
  | _ => exact isValid_simple_cls _ rfl v w h

theorem builtin_sigs_flat (b : Builtin) :
    b.sig.inputs.all ArgT.flat = true ∧ b.sig.variadic.all ArgT.flat = true := by
  cases b <;> exact ⟨rfl, rfl⟩

/-! ## Part 2 — the builtins behind their signatures -/

/-! ### argument-list shapes forced by the three kinds of builtin signature -/

theorem validate_one (t : ArgT) (args : List Val) (off : Nat) :
    (⟨[t], none⟩ : Sig).validate args off = .ok () ↔ ∃ a, args = [a] ∧ t.isValid a = true := by
  rcases args with _ | ⟨a, _ | ⟨b, rest⟩⟩
  · simp [Sig.validate, Sig.validateArity]
  · by_cases h : t.isValid a = true <;> simp [Sig.validate, Sig.validateArity, Sig.validateArgs, h]
  · simp [Sig.validate, Sig.validateArity]

theorem validate_two (t u : ArgT) (args : List Val) (off : Nat) :
    (⟨[t, u], none⟩ : Sig).validate args off = .ok () ↔
      ∃ a b, args = [a, b] ∧ t.isValid a = true ∧ u.isValid b = true := by
  rw [validate_ok_iff]
  rcases args with _ | ⟨a, _ | ⟨b, _ | ⟨c, rest⟩⟩⟩
  · simp [Sig.arityOk]
  · simp [Sig.arityOk]
  · constructor
    · intro ⟨_, h⟩
      obtain ⟨t', ht, ha⟩ := h 0 a rfl
      obtain ⟨u', hu, hb⟩ := h 1 b rfl
      cases ht; cases hu
      exact ⟨a, b, rfl, ha, hb⟩
    · rintro ⟨_, _, h, ha, hb⟩
      cases h
      refine ⟨rfl, fun k v hk => ?_⟩
      match k, hk with
      | 0, hk => cases hk; exact ⟨t, rfl, ha⟩
      | 1, hk => cases hk; exact ⟨u, rfl, hb⟩
  · simp [Sig.arityOk]

theorem validate_var (t u : ArgT) (args : List Val) (off : Nat) :
    (⟨[t], some u⟩ : Sig).validate args off = .ok () ↔
      ∃ a rest, args = a :: rest ∧ t.isValid a = true ∧ ∀ x ∈ rest, u.isValid x = true := by
  rw [validate_ok_iff]
  rcases args with _ | ⟨a, rest⟩
  · simp [Sig.arityOk]
  · simp only [Sig.arityOk, Option.isSome_some, if_true, List.length_cons, List.length_nil,
      decide_eq_true_eq, List.cons.injEq]
    constructor
    · rintro ⟨_, h⟩
      refine ⟨a, rest, ⟨rfl, rfl⟩, ?_, ?_⟩
      · simpa [Sig.param] using h 0 a (by simp)
      · intro x hx
        obtain ⟨j, hj, rfl⟩ := List.getElem_of_mem hx
        simpa [Sig.param] using h (j + 1) rest[j] (by simp [hj])
    · rintro ⟨a', rest', ⟨rfl, rfl⟩, ha, hr⟩
      refine ⟨by omega, ?_⟩
      intro k v hk
      cases k with
      | zero => simp at hk; subst hk; simpa [Sig.param] using ha
      | succ k =>
        simp at hk
        have := hr v (List.mem_of_getElem? hk)
        simpa [Sig.param] using this

theorem isValid_number (v : Val) : ArgT.isValid .number v = true ↔ ∃ n, v = .num n := by
  cases v <;> simp [ArgT.isValid, Val.type]
theorem isValid_string (v : Val) : ArgT.isValid .string v = true ↔ ∃ s, v = .str s := by
  cases v <;> simp [ArgT.isValid, Val.type]
theorem isValid_object (v : Val) : ArgT.isValid .object v = true ↔ ∃ kvs, v = .obj kvs := by
  cases v <;> simp [ArgT.isValid, Val.type]
theorem isValid_array (v : Val) : ArgT.isValid .array v = true ↔ ∃ xs, v = .arr xs := by
  cases v <;> simp [ArgT.isValid, Val.type]
theorem isValid_expref (v : Val) : ArgT.isValid .expref v = true ↔ ∃ a, v = .expref a := by
  cases v <;> simp [ArgT.isValid, Val.type]
theorem isValid_typedArray (t : ArgT) (v : Val) :
    ArgT.isValid (.typedArray t) v = true ↔ ∃ xs, v = .arr xs ∧ ∀ x ∈ xs, t.isValid x = true := by
  cases v <;> simp [ArgT.isValid, allValid_iff]

/-- `array[string] | array[number]` -/
theorem isValid_strs_or_nums (v : Val) :
    ArgT.isValid (.union [arrStr, arrNum]) v = true ↔ ∃ xs, v = .arr xs ∧ SameKind xs := by
  unfold ArgT.isValid
  simp only [anyValid, arrStr, arrNum, Bool.or_false, Bool.or_eq_true, isValid_typedArray,
    isValid_string, isValid_number, SameKind]
  constructor
  · rintro (⟨xs, rfl, h⟩ | ⟨xs, rfl, h⟩)
    · exact ⟨xs, rfl, .inl h⟩
    · exact ⟨xs, rfl, .inr h⟩
  · rintro ⟨xs, rfl, h | h⟩
    · exact .inl ⟨xs, rfl, h⟩
    · exact .inr ⟨xs, rfl, h⟩

/-- the argument lists that pass a builtin's signature check, as far as its body looks at them -/
inductive Builtin.Accepts : Builtin → List Val → Prop
  | abs (n : Num) : Accepts .abs [.num n]
  | avg (xs : List Val) (h : ∀ x ∈ xs, ∃ n, x = .num n) : Accepts .avg [.arr xs]
  | ceil (n : Num) : Accepts .ceil [.num n]
  | containsStr (s : String) (v : Val) : Accepts .contains [.str s, v]
  | containsArr (xs : List Val) (v : Val) : Accepts .contains [.arr xs, v]
  | endsWith (s t : String) : Accepts .endsWith [.str s, .str t]
  | floor (n : Num) : Accepts .floor [.num n]
  | join (glue : String) (xs : List Val) (h : ∀ x ∈ xs, ∃ s, x = .str s) : Accepts .join [.str glue, .arr xs]
  | keys (kvs : List (String × Val)) : Accepts .keys [.obj kvs]
  | lengthArr (xs : List Val) : Accepts .length [.arr xs]
  | lengthObj (kvs : List (String × Val)) : Accepts .length [.obj kvs]
  | lengthStr (s : String) : Accepts .length [.str s]
  | map (a : Ast) (xs : List Val) : Accepts .map [.expref a, .arr xs]
  | max (xs : List Val) (h : SameKind xs) : Accepts .max [.arr xs]
  | min (xs : List Val) (h : SameKind xs) : Accepts .min [.arr xs]
  | maxBy (xs : List Val) (a : Ast) : Accepts .maxBy [.arr xs, .expref a]
  | minBy (xs : List Val) (a : Ast) : Accepts .minBy [.arr xs, .expref a]
  | merge (args : List Val) : Accepts .merge args
  | notNull (args : List Val) : Accepts .notNull args
  | reverseArr (xs : List Val) : Accepts .reverse [.arr xs]
  | reverseStr (s : String) : Accepts .reverse [.str s]
  | sort (xs : List Val) (h : SameKind xs) : Accepts .sort [.arr xs]
  | sortBy (xs : List Val) (a : Ast) : Accepts .sortBy [.arr xs, .expref a]
  | startsWith (s t : String) : Accepts .startsWith [.str s, .str t]
  | sum (xs : List Val) (h : ∀ x ∈ xs, ∃ n, x = .num n) : Accepts .sum [.arr xs]
  | toArray (v : Val) : Accepts .toArray [v]
  | toNumber (v : Val) : Accepts .toNumber [v]
  | toString (v : Val) (h : ∀ a, v ≠ .expref a) : Accepts .toString [v]
  | type (v : Val) : Accepts .type [v]
  | values (kvs : List (String × Val)) : Accepts .values [.obj kvs]

theorem Builtin.accepts_of_validate {b : Builtin} {args : List Val} {off : Nat}
    (hv : b.sig.validate args off = .ok ()) : b.Accepts args := by
  cases b
  case merge => exact .merge args
  case notNull => exact .notNull args
  case abs | ceil | floor =>
    obtain ⟨_, rfl, h⟩ := (validate_one _ _ _).1 hv
    obtain ⟨n, rfl⟩ := (isValid_number _).1 h
    constructor
  case avg | sum =>
    obtain ⟨_, rfl, h⟩ := (validate_one _ _ _).1 hv
    obtain ⟨xs, rfl, hx⟩ := (isValid_typedArray _ _).1 h
    constructor
    exact fun x hm => (isValid_number x).1 (hx x hm)
  case endsWith | startsWith =>
    obtain ⟨_, _, rfl, h, h'⟩ := (validate_two _ _ _ _).1 hv
    obtain ⟨s, rfl⟩ := (isValid_string _).1 h
    obtain ⟨t, rfl⟩ := (isValid_string _).1 h'
    constructor
  case keys | values =>
    obtain ⟨_, rfl, h⟩ := (validate_one _ _ _).1 hv
    obtain ⟨kvs, rfl⟩ := (isValid_object _).1 h
    constructor
  case max | min | sort =>
    obtain ⟨_, rfl, h⟩ := (validate_one _ _ _).1 hv
    obtain ⟨xs, rfl, hx⟩ := (isValid_strs_or_nums _).1 h
    constructor
    exact hx
  case maxBy | minBy | sortBy =>
    obtain ⟨_, _, rfl, h, h'⟩ := (validate_two _ _ _ _).1 hv
    obtain ⟨xs, rfl⟩ := (isValid_array _).1 h
    obtain ⟨a, rfl⟩ := (isValid_expref _).1 h'
    constructor
  case toArray | toNumber | type =>
    obtain ⟨a, rfl, -⟩ := (validate_one _ _ _).1 hv
    constructor
  case map =>
    obtain ⟨_, _, rfl, h, h'⟩ := (validate_two _ _ _ _).1 hv
    obtain ⟨a, rfl⟩ := (isValid_expref _).1 h
    obtain ⟨xs, rfl⟩ := (isValid_array _).1 h'
    constructor
  case join =>
    obtain ⟨_, _, rfl, h, h'⟩ := (validate_two _ _ _ _).1 hv
    obtain ⟨glue, rfl⟩ := (isValid_string _).1 h
    obtain ⟨xs, rfl, hx⟩ := (isValid_typedArray _ _).1 h'
    exact .join glue xs fun x hm => (isValid_string x).1 (hx x hm)
  case contains =>
    obtain ⟨a, v, rfl, h, -⟩ := (validate_two _ _ _ _).1 hv
    cases a <;> first | constructor | simp [ArgT.isValid, anyValid, Val.type] at h
  case length | reverse =>
    obtain ⟨a, rfl, h⟩ := (validate_one _ _ _).1 hv
    cases a <;> first | constructor | simp [ArgT.isValid, anyValid, Val.type] at h
  case toString =>
    obtain ⟨a, rfl, h⟩ := (validate_one _ _ _).1 hv
    refine .toString a fun e he => ?_
    subst he
    simp [ArgT.isValid, anyValid, Val.type, Val.isNull] at h


/-! ### result types and failures of the builtins that take no expression reference -/

def JType.all : List JType := [.null, .string, .number, .boolean, .array, .object, .expref]

theorem JType.mem_all (t : JType) : t ∈ JType.all := by cases t <;> decide

/-- the JMESPath result type(s) each builtin declares (JMESPath function specification) -/
def Builtin.resultTypes : Builtin → List JType
  | .abs => [.number] | .avg => [.number, .null] | .ceil => [.number] | .contains => [.boolean]
  | .endsWith => [.boolean] | .floor => [.number] | .join => [.string] | .keys => [.array]
  | .length => [.number] | .map => [.array] | .max => [.number, .string, .null]
  | .min => [.number, .string, .null] | .maxBy => JType.all | .minBy => JType.all
  | .merge => [.object] | .notNull => JType.all | .reverse => [.array, .string] | .sort => [.array]
  | .sortBy => [.array] | .startsWith => [.boolean] | .sum => [.number] | .toArray => [.array]
  | .toNumber => [.number, .null] | .toString => [.string] | .type => [.string]
  | .values => [.array]

/-- the builtins whose body can fail (with the non-finite-float `internal` error) -/
def Builtin.floatProducing : List Builtin := [.abs, .avg, .ceil, .floor, .sum]

/-- what a non-expref builtin does on validated arguments: a value of a declared result type, or
(for the five float-producing ones only) the `internal` error -/
def PureSpec (b : Builtin) (args : List Val) : Prop :=
  (∃ v, b.pure args = .ok v ∧ v.type ∈ b.resultTypes) ∨
  (∃ msg, b.pure args = .error (.internal msg) ∧ b ∈ Builtin.floatProducing)

theorem foldl_pick_mem {α : Type} (f : α → α → α) (hf : ∀ a b, f a b = a ∨ f a b = b) (rest : List α) :
    ∀ x : α, rest.foldl f x ∈ x :: rest := by
  induction rest with
  | nil => intro x; exact List.mem_cons_self
  | cons y rest ih =>
    intro x
    rw [List.foldl_cons]
    rcases List.mem_cons.1 (ih (f x y)) with h | h
    · rw [h]
      rcases hf x y with e | e <;> rw [e] <;> simp
    · exact List.mem_cons_of_mem _ (List.mem_cons_of_mem _ h)

theorem foldMax_mem (xs : List Val) (v : Val) (h : foldMax xs = some v) : v ∈ xs := by
  cases xs with
  | nil => cases h
  | cons a as => cases h; exact foldl_pick_mem _ (fun _ _ => by split <;> simp) as a

theorem foldMin_mem (xs : List Val) (v : Val) (h : foldMin xs = some v) : v ∈ xs := by
  cases xs with
  | nil => cases h
  | cons a as => cases h; exact foldl_pick_mem _ (fun _ _ => by split <;> simp) as a

theorem toNumber_cases (a : Val) :
    (∃ n, Builtin.pure .toNumber [a] = .ok (.num n)) ∨ Builtin.pure .toNumber [a] = .ok .null := by
  cases a with
  | num n => exact .inl ⟨n, rfl⟩
  | str s =>
    simp only [Builtin.pure]
    split
    · exact .inl ⟨_, rfl⟩
    · exact .inr rfl
  | _ => exact .inr rfl

theorem pure_spec (b : Builtin) (args : List Val) (off : Nat)
    (hv : b.sig.validate args off = .ok ()) (hb : b.usesExpref = false) : PureSpec b args := by
  have float : ∀ f msg, b.pure args = numOfF64 f msg → .number ∈ b.resultTypes →
      b ∈ Builtin.floatProducing → PureSpec b args := by
    intro f msg h hn hf
    rw [PureSpec, h, numOfF64]
    split
    · exact .inl ⟨_, rfl, hn⟩
    · exact .inr ⟨_, rfl, hf⟩
  have extreme : ∀ xs o, SameKind xs → (∀ v, o = some v → v ∈ xs) → b.pure args = .ok (o.getD .null) →
      b.resultTypes = [.number, .string, .null] → PureSpec b args := by
    intro xs o hx ho h ht
    refine .inl ⟨_, h, ?_⟩
    rw [ht]
    cases o with
    | none => decide
    | some v =>
      rcases hx with hx | hx
      · obtain ⟨s, rfl⟩ := hx v (ho v rfl); exact List.mem_of_elem_eq_true rfl
      · obtain ⟨n, rfl⟩ := hx v (ho v rfl); exact List.mem_of_elem_eq_true rfl
  cases Builtin.accepts_of_validate hv
  case map | sortBy | maxBy | minBy => cases hb
  case abs | ceil | floor | sum => exact float _ _ rfl (by decide) (by decide)
  case avg xs _ =>
    cases xs with
    | nil => exact .inl ⟨_, rfl, List.mem_of_elem_eq_true rfl⟩
    | cons x xs => exact float _ _ rfl (by decide) (by decide)
  case max xs h => exact extreme xs _ h (foldMax_mem xs) rfl rfl
  case min xs h => exact extreme xs _ h (foldMin_mem xs) rfl rfl
  case toNumber v =>
    rcases toNumber_cases v with ⟨n, h⟩ | h <;> exact .inl ⟨_, h, List.mem_of_elem_eq_true rfl⟩
  case toArray v | toString v _ => cases v <;> exact .inl ⟨_, rfl, List.mem_of_elem_eq_true rfl⟩
  case notNull => exact .inl ⟨_, rfl, JType.mem_all _⟩
  case containsStr s v => cases v <;> exact .inl ⟨_, rfl, List.mem_of_elem_eq_true rfl⟩
  all_goals exact .inl ⟨_, rfl, List.mem_of_elem_eq_true rfl⟩

/-- after a successful validation no non-expref builtin reaches its `unreachable!()` /
out-of-bounds arm -/
theorem pure_no_panic (b : Builtin) (args : List Val) (off : Nat)
    (hv : b.sig.validate args off = .ok ()) (hb : b.usesExpref = false) :
    ∀ m, b.pure args ≠ .error (.panic m) := by
  intro m h
  rcases pure_spec b args off hv hb with ⟨v, h', _⟩ | ⟨msg, h', _⟩ <;> rw [h] at h' <;> cases h'

theorem pure_error_is_internal (b : Builtin) (args : List Val) (off : Nat)
    (hv : b.sig.validate args off = .ok ()) (hb : b.usesExpref = false) (e : EvalErr)
    (h : b.pure args = .error e) :
    (∃ msg, e = .internal msg) ∧ b ∈ Builtin.floatProducing := by
  rcases pure_spec b args off hv hb with ⟨v', h', ht⟩ | ⟨msg, h', hf⟩ <;> rw [h] at h'
  · cases h'
  · cases h'
    exact ⟨⟨msg, rfl⟩, hf⟩

/-- what makes the `unreachable` arm of the four expref-taking builtins unreachable -/
theorem expref_args_shape (b : Builtin) (args : List Val) (off : Nat)
    (hv : b.sig.validate args off = .ok ()) (hb : b.usesExpref = true) :
    (b = .map ∧ ∃ a xs, args = [.expref a, .arr xs]) ∨
    ((b = .sortBy ∨ b = .maxBy ∨ b = .minBy) ∧ ∃ a xs, args = [.arr xs, .expref a]) := by
  cases Builtin.accepts_of_validate hv
  case map a xs => exact .inl ⟨rfl, a, xs, rfl⟩
  case sortBy xs a | maxBy xs a | minBy xs a => exact .inr ⟨by simp, a, xs, rfl⟩
  all_goals cases hb

theorem custom_guard (rt : Registry) (fuel id : Nat) (s : Sig) (args : List Val) (off : Nat) :
    callFn rt (fuel + 1) (.custom id (some s)) args off =
      (match s.validate args off with
       | .error e => .error e
       | .ok () => .ok (customResult id args, off)) := by
  simp only [callFn]
  cases s.validate args off <;> rfl

/-! ### the builtins inside `callFn` -/

theorem callFn_pure (rt : Registry) (fuel : Nat) (b : Builtin) (args : List Val) (off : Nat)
    (hb : b.usesExpref = false) :
    callFn rt (fuel + 1) (.builtin b) args off =
      (match b.sig.validate args off with
       | .error e => .error e
       | .ok () =>
         match b.pure args with
         | .error e => .error e
         | .ok v => .ok (v, off)) := by
  rw [callFn.eq_def]
  simp only
  cases b.sig.validate args off with
  | error e => rfl
  | ok u =>
    simp only
    split <;> first | cases hb | (simp only [hb]; rfl)


/-- "some evaluation of the reference `a` on an element of `xs` panics with `m`" -/
def ExprefPanics (rt : Registry) (xs : List Val) (a : Ast) (m : String) : Prop :=
  ∃ f x o, x ∈ xs ∧ interp rt f x a o = .error (.panic m)

theorem ExprefPanics.tail {rt : Registry} {x : Val} {xs : List Val} {a : Ast} {m : String}
    (h : ExprefPanics rt xs a m) : ExprefPanics rt (x :: xs) a m := by
  obtain ⟨f, y, o, hy, h⟩ := h
  exact ⟨f, y, o, List.mem_cons_of_mem _ hy, h⟩

theorem mapExpref_panic (rt : Registry) (a : Ast) (m : String) : ∀ (fuel : Nat) (xs : List Val)
    (off : Nat), mapExpref rt fuel xs a off = .error (.panic m) → ExprefPanics rt xs a m := by
  intro fuel
  induction fuel with
  | zero => intro xs off h; simp [mapExpref] at h
  | succ fuel ih =>
    intro xs off h
    cases xs with
    | nil => simp [mapExpref] at h
    | cons x rest =>
      simp only [mapExpref] at h
      split at h
      · next hi => cases h; exact ⟨fuel, x, off, by simp, hi⟩
      · split at h
        · next hr => cases h; exact (ih rest _ hr).tail
        · cases h

theorem keysTyped_panic (rt : Registry) (a : Ast) (m : String) : ∀ (fuel : Nat) (xs : List Val)
    (ty : JType) (inv off : Nat),
    keysTyped rt fuel xs a ty inv off = .error (.panic m) → ExprefPanics rt xs a m := by
  intro fuel
  induction fuel with
  | zero => intro xs ty inv off h; simp [keysTyped] at h
  | succ fuel ih =>
    intro xs ty inv off h
    cases xs with
    | nil => simp [keysTyped] at h
    | cons x rest =>
      simp only [keysTyped] at h
      split at h
      · next hi => cases h; exact ⟨fuel, x, off, by simp, hi⟩
      · split at h
        · cases h
        · split at h
          · next hr => cases h; exact (ih rest _ _ _ hr).tail
          · cases h

/-- the key loop that `sort_by` and `min_and_max_by!` share, over a non-empty array: the key of the
first element fixes the key type (string or number, else an error naming `expected`), `keysTyped`
evaluates the keys of the rest, `f` builds the result from the keys -/
def keyLoop (rt : Registry) (n : Nat) (x : Val) (rest : List Val) (a : Ast) (off : Nat) (expected : String)
    (f : Val → List Val → Val) : Except EvalErr Val :=
  ev rt n x a >>= fun k0 =>
    if k0.type ≠ .string ∧ k0.type ≠ .number then
      .error (.runtime (.invalidReturnType expected k0.type.name 1 1) off)
    else evKeys rt n rest a k0.type 1 off >>= fun ks => .ok (f k0 ks)

/-- The left side is, token for token, the arm that `callFn … sortBy` and `byExtreme` share once
`simp only` has unfolded them, so `exact keyLoop_eq ..` closes those goals by syntactic match. -/
theorem keyLoop_eq (rt : Registry) (n : Nat) (x : Val) (rest : List Val) (a : Ast) (off : Nat)
    (expected : String) (f : Val → List Val → Val) :
    (match interp rt n x a off with
      | .error e => .error e
      | .ok (k0, off) =>
        if k0.type ≠ .string ∧ k0.type ≠ .number then
          .error (.runtime (.invalidReturnType expected k0.type.name 1 1) off)
        else match keysTyped rt n rest a k0.type 1 off with
          | .error e => .error e
          | .ok (ks, off) => .ok (f k0 ks, off) : ERes Val) = lift off (keyLoop rt n x rest a off expected f) := by
  simp only [keyLoop, (Comp.keep_all rt n).interp, (Comp.keep_all rt n).keysTyped]
  cases ev rt n x a with
  | error e => rfl
  | ok k0 =>
    simp only [Comp.lift_ok, Comp.ok_bind]
    split
    · rfl
    · cases evKeys rt n rest a k0.type 1 off <;> rfl

/-- the converse of `keyLoop_ok`, from runs that thread the offset -/
theorem keyLoop_of_ok {rt : Registry} {n : Nat} {x : Val} {rest : List Val} {a : Ast} {off off1 off2 : Nat}
    {k0 : Val} {ks : List Val} (expected : String) (f : Val → List Val → Val)
    (h1 : interp rt n x a off = .ok (k0, off1)) (hty : k0.type = .string ∨ k0.type = .number)
    (h2 : keysTyped rt n rest a k0.type 1 off1 = .ok (ks, off2)) :
    lift off (keyLoop rt n x rest a off expected f) = .ok (f k0 ks, off2) := by
  have hty' : ¬ (k0.type ≠ .string ∧ k0.type ≠ .number) := by
    rcases hty with h | h <;> simp [h]
  rw [← keyLoop_eq]
  simp only [h1, h2, if_neg hty']

theorem keyLoop_ok {rt : Registry} {n : Nat} {x : Val} {rest : List Val} {a : Ast} {off : Nat}
    {expected : String} {f : Val → List Val → Val} {v : Val}
    (h : keyLoop rt n x rest a off expected f = .ok v) :
    ∃ k0 ks, interp rt n x a off = .ok (k0, off) ∧ ¬ (k0.type ≠ .string ∧ k0.type ≠ .number) ∧
      keysTyped rt n rest a k0.type 1 off = .ok (ks, off) ∧ v = f k0 ks := by
  unfold keyLoop at h
  rw [(Comp.keep_all rt n).interp]
  cases h0 : ev rt n x a with
  | error e => rw [h0] at h; cases h
  | ok k0 =>
    rw [h0, Comp.ok_bind] at h
    split at h
    · cases h
    · next hty =>
      refine ⟨k0, ?_⟩
      rw [(Comp.keep_all rt n).keysTyped]
      cases hk : evKeys rt n rest a k0.type 1 off with
      | error e => rw [hk] at h; cases h
      | ok ks => rw [hk] at h; cases h; exact ⟨ks, rfl, hty, rfl, rfl⟩

theorem keyLoop_panic {rt : Registry} {n : Nat} {x : Val} {rest : List Val} {a : Ast} {off : Nat}
    {expected : String} {f : Val → List Val → Val} {m : String}
    (h : keyLoop rt n x rest a off expected f = .error (.panic m)) : ExprefPanics rt (x :: rest) a m := by
  unfold keyLoop at h
  cases h0 : ev rt n x a with
  | error e =>
    rw [h0] at h
    cases h
    exact ⟨n, x, 0, by simp, Comp.outcome_error_iff.1 h0⟩
  | ok k0 =>
    rw [h0, Comp.ok_bind] at h
    split at h
    · cases h
    · cases hk : evKeys rt n rest a k0.type 1 off with
      | error e =>
        rw [hk] at h
        cases h
        exact (keysTyped_panic rt a m n rest _ _ _ (Comp.outcome_error_iff.1 hk)).tail
      | ok ks => rw [hk] at h; cases h

theorem validate_arr_expref (xs : List Val) (a : Ast) (off : Nat) :
    (⟨[.array, .expref], none⟩ : Sig).validate [.arr xs, .expref a] off = .ok () :=
  (validate_two _ _ _ _).2 ⟨_, _, rfl, (isValid_array _).2 ⟨_, rfl⟩, (isValid_expref _).2 ⟨_, rfl⟩⟩

/-! the four expref-taking builtins on validated arguments: the body that runs (the
`unreachable` arm is not among them) -/

theorem callFn_map (rt : Registry) (fuel : Nat) (a : Ast) (xs : List Val) (off : Nat) :
    callFn rt (fuel + 1) (.builtin .map) [.expref a, .arr xs] off =
      (match mapExpref rt fuel xs a off with
       | .error e => .error e
       | .ok (vs, off) => .ok (.arr vs, off)) := by
  simp only [callFn, show Builtin.map.sig.validate [.expref a, .arr xs] off = .ok () from
    (validate_two _ _ _ _).2 ⟨_, _, rfl, (isValid_expref _).2 ⟨_, rfl⟩, (isValid_array _).2 ⟨_, rfl⟩⟩]
  rfl

theorem callFn_maxBy (rt : Registry) (fuel : Nat) (a : Ast) (xs : List Val) (off : Nat) :
    callFn rt (fuel + 1) (.builtin .maxBy) [.arr xs, .expref a] off =
      byExtreme rt fuel true xs a off := by
  simp only [callFn, Builtin.sig, validate_arr_expref]

theorem callFn_minBy (rt : Registry) (fuel : Nat) (a : Ast) (xs : List Val) (off : Nat) :
    callFn rt (fuel + 1) (.builtin .minBy) [.arr xs, .expref a] off =
      byExtreme rt fuel false xs a off := by
  simp only [callFn, Builtin.sig, validate_arr_expref]

theorem callFn_sortBy_eq (rt : Registry) (fuel : Nat) (a : Ast) (xs : List Val) (off : Nat) :
    callFn rt (fuel + 1) (.builtin .sortBy) [.arr xs, .expref a] off =
      lift off (match xs with
      | [] => .ok (.arr [])
      | x :: rest => keyLoop rt fuel x rest a off "expression->string|expression->number"
          fun k0 ks => .arr ((sortPairs ((x :: rest).zip (k0 :: ks))).map (·.1))) := by
  cases xs <;> simp only [callFn, Builtin.sig, validate_arr_expref]
  · rfl
  · exact keyLoop_eq ..

/-- the candidate fold of `max_by` / `min_by` (`min_and_max_by!`), on (element, key) pairs -/
def pickExtreme (isMax : Bool) (x : Val) (k0 : Val) (rest : List (Val × Val)) : Val × Val :=
  rest.foldl (fun cand vk =>
    if isMax then (if Val.cmp vk.2 cand.2 == .gt then vk else cand)
    else (if Val.cmp vk.2 cand.2 == .lt then vk else cand)) (x, k0)

theorem byExtreme_succ (rt : Registry) (n : Nat) (isMax : Bool) (xs : List Val) (a : Ast) (off : Nat) :
    byExtreme rt (n + 1) isMax xs a off =
      lift off (match xs with
      | [] => .ok .null
      | x :: rest => keyLoop rt n x rest a off "expression->number|expression->string"
          fun k0 ks => (pickExtreme isMax x k0 (rest.zip ks)).1) := by
  cases xs <;> simp only [byExtreme]
  · rfl
  · exact keyLoop_eq ..

theorem callFn_map_eq (rt : Registry) (fuel : Nat) (a : Ast) (xs : List Val) (off : Nat) :
    callFn rt (fuel + 1) (.builtin .map) [.expref a, .arr xs] off =
      lift off (evMap rt fuel xs a >>= fun vs => .ok (.arr vs)) := by
  rw [callFn_map, (Comp.keep_all rt fuel).mapExpref]
  cases evMap rt fuel xs a <;> rfl

/-- how a call of a builtin runs: its signature check fails; or it is one of the 22 builtins that
evaluate no expression reference, and the result is fixed by the arguments; or it is `map`, `sort_by`,
`max_by` or `min_by` on arguments of their shape (`callFn_map`, `callFn_sortBy_eq`, `callFn_maxBy`,
`callFn_minBy`) -/
theorem callFn_shape (b : Builtin) (args : List Val) (off : Nat) :
    (∃ e, b.sig.validate args off = .error e ∧
      ∀ rt n, callFn rt (n + 1) (.builtin b) args off = .error e) ∨
    (b.usesExpref = false ∧ b.sig.validate args off = .ok () ∧
      ∀ rt n, callFn rt (n + 1) (.builtin b) args off = lift off (b.pure args)) ∨
    (b = .map ∧ ∃ a xs, args = [.expref a, .arr xs]) ∨
    ((b = .sortBy ∨ b = .maxBy ∨ b = .minBy) ∧ ∃ a xs, args = [.arr xs, .expref a]) := by
  cases hv : b.sig.validate args off with
  | error e => exact .inl ⟨e, rfl, fun rt n => by rw [callFn.eq_def]; simp only [hv]⟩
  | ok u =>
    cases hb : b.usesExpref with
    | false =>
      exact .inr (.inl ⟨rfl, rfl, fun rt n => by rw [callFn_pure rt n b args off hb, hv]; cases b.pure args <;> rfl⟩)
    | true => exact .inr (.inr (expref_args_shape b args off hv hb))

theorem byExtreme_panic (rt : Registry) (a : Ast) (m : String) (fuel : Nat) (isMax : Bool)
    (xs : List Val) (off : Nat)
    (h : byExtreme rt fuel isMax xs a off = .error (.panic m)) : ExprefPanics rt xs a m := by
  cases fuel with
  | zero => simp [byExtreme] at h
  | succ fuel =>
    rw [byExtreme_succ] at h
    cases xs with
    | nil => cases h
    | cons x rest => exact keyLoop_panic (Comp.lift_error_iff.1 h)

theorem sortBy_panic (rt : Registry) (fuel : Nat) (a : Ast) (xs : List Val) (off : Nat) (m : String)
    (h : callFn rt (fuel + 1) (.builtin .sortBy) [.arr xs, .expref a] off = .error (.panic m)) :
    ExprefPanics rt xs a m := by
  rw [callFn_sortBy_eq] at h
  cases xs with
  | nil => cases h
  | cons x rest => exact keyLoop_panic (Comp.lift_error_iff.1 h)

#print axioms validate_arity_error
#print axioms validate_ok_iff
#print axioms validate_error_offset
#print axioms validate_no_panic
#print axioms isValid_depends_on_cls
#print axioms builtin_sigs_flat
#print axioms pure_spec
#print axioms pure_no_panic
#print axioms pure_error_is_internal
#print axioms toNumber_cases
#print axioms expref_args_shape
#print axioms custom_guard
#print axioms callFn_pure
#print axioms callFn_map
#print axioms callFn_maxBy
#print axioms callFn_minBy
#print axioms sortBy_panic
#print axioms mapExpref_panic
#print axioms keysTyped_panic
#print axioms byExtreme_panic

end JmesVerif
