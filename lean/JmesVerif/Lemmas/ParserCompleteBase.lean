import JmesVerif.Lemmas.ParserMono
import JmesVerif.Lemmas.ParserSoundAux
/-!
What the completeness induction (T2) is stated with: the size functions that bound the fuel a tree
needs, `Tok.nudStart`, the `callDevOk` side condition as the loop sees it (`cdOk`), and the joint
statement `Comp n` for fuel `n`, one field per parser function.
-/
namespace JmesVerif
open Parser

/-! ### sizes (fuel needed) -/
mutual
def Nud.size : Nud → Nat
  | .call _ args => argsSize args + 3
  | .star r => r.size + 3
  | .idx _ => 3
  | .slice _ r => r.size + 3
  | .wildIdx r => r.size + 3
  | .mlist es => argsSize es + 3
  | .flatten r => r.size + 3
  | .mhash kvs => kvsSize kvs + 3
  | .not e => e.size + 3
  | .filter p r => p.size + r.size + 3
  | .paren e => e.size + 3
  | .expref e => e.size + 3
  | _ => 3
def Led.size : Led → Nat
  | .dotStar r => r.size + 3
  | .dot d => d.size + 3
  | .index _ => 3
  | .sliceL _ r => r.size + 3
  | .wildIdxL r => r.size + 3
  | .or e => e.size + 3
  | .and e => e.size + 3
  | .pipe e => e.size + 3
  | .cmp _ e => e.size + 3
  | .flattenL r => r.size + 3
  | .filterL p r => p.size + r.size + 3
  | .callDev args => argsSize args + 3
def Rhs.size : Rhs → Nat
  | .none => 1
  | .dot d => d.size + 1
  | .bracket e => e.size + 1
def DotRhs.size : DotRhs → Nat
  | .mlist es => argsSize es + 3
  | .expr e => e.size + 1
def Expr.size : Expr → Nat
  | .mk h ls => h.size + ledsSize ls + 1
def ledsSize : List Led → Nat
  | [] => 1
  | l :: ls => l.size + ledsSize ls + 1
def argsSize : List Expr → Nat
  | [] => 1
  | e :: es => e.size + argsSize es + 1
def kvsSize : List (Bool × String × Expr) → Nat
  | [] => 1
  | (_, _, e) :: r => e.size + kvsSize r + 1
end

theorem Nud.three_le_size (h : Nud) : 3 ≤ h.size := by cases h <;> simp [Nud.size]
theorem Led.three_le_size (l : Led) : 3 ≤ l.size := by cases l <;> simp [Led.size]

theorem Tok.lbp_le (t : Tok) : t.lbp ≤ 60 := by cases t <;> simp [Tok.lbp]

@[simp] theorem peekL_cons (t : Tok) (r : List Tok) : peekL (t :: r) = t := rfl
@[simp] theorem peekL_nil : peekL [] = .eof := rfl

/-- tokens that can start an expression -/
def Tok.nudStart : Tok → Bool
  | .at | .identifier _ | .quotedIdentifier _ | .literal _ | .star | .lbracket | .flatten | .lbrace
  | .not | .filter | .lparen | .ampersand => true
  | _ => false

theorem SliceHdr.toks_first (h : SliceHdr) (r : List Tok) :
    (∃ n rest, h.toks ++ r = .number n :: rest) ∨ (∃ rest, h.toks ++ r = .colon :: rest) := by
  obtain ⟨a, b, c⟩ := h
  cases a <;> simp [SliceHdr.toks, optNumToks]

theorem Nud.toks_first (h : Nud) : ∃ t rest, h.toks = t :: rest ∧ t.nudStart = true := by
  obtain ⟨r, hr⟩ := h.toks_first_s
  exact ⟨_, r, hr, by cases h <;> rfl⟩

theorem Expr.toks_first (e : Expr) : ∃ t rest, e.toks = t :: rest ∧ t.nudStart = true := by
  obtain ⟨h, ls⟩ := e
  obtain ⟨t, rest, h1, h2⟩ := h.toks_first
  exact ⟨t, rest ++ ledsToks ls, by simp [Expr.toks, h1], h2⟩

theorem stop_leds (fo : Nat) (ls : List Led) (r0 : List Tok) (rbp : Nat)
    (hc : chain rbp fo ls) (hs : (peekL r0).lbp ≤ ledsFollow fo ls) :
    (peekL (ledsToks ls ++ r0)).lbp ≤ fo := by
  cases ls with
  | nil => simpa [ledsToks, ledsFollow] using hs
  | cons l' ls' =>
    simp only [chain] at hc
    simp only [ledsToks, List.append_assoc, peek_led]
    exact hc.2.1

def IsFieldAst (a : Ast) : Prop := ∃ o nm, a = Ast.field o nm

def Nud.isCall : Nud → Bool
  | .call _ _ => true
  | _ => false
def Nud.isQfield : Nud → Bool
  | .qfield _ => true
  | _ => false
def Nud.isParen : Nud → Bool
  | .paren _ => true
  | _ => false

def noCallDev (ls : List Led) : Prop := ∀ l ∈ ls, l.isCallDev = false

/-- the `callDevOk` side condition as the loop sees it (`left` = tree built so far) -/
def cdOk (h : Nud) (left : Ast) : List Led → Prop
  | [] => True
  | l :: ls => (l.isCallDev = true → h.isParen = true ∧ IsFieldAst left) ∧ noCallDev ls

/-- the same function as `closeTok` -/
def closeTok_m (paren : Bool) : Tok := if paren then .rparen else .rbracket

structure Comp (n : Nat) : Prop where
  expr : ∀ (e : Expr) (rbp : Nat) (ts : List PT) (r0 : List Tok) (off : Nat),
    e.size ≤ n → e.Legal rbp → rbp < 60 → tk ts = e.toks ++ r0 →
    (peekL r0).lbp ≤ rbp → (peekL r0).lbp ≤ e.follow →
    ∃ a ts' off', Parser.expr n rbp ts off = .ok ((e, a), ts', off') ∧ tk ts' = r0 ∧
      (e.isField = true → IsFieldAst a)
  loop : ∀ (ls : List Led) (rbp fo : Nat) (h : Nud) (acc : List Led) (left : Ast) (ts : List PT)
    (r0 : List Tok) (off : Nat),
    ledsSize ls ≤ n → chain rbp fo ls → cdOk h left ls → tk ts = ledsToks ls ++ r0 →
    (peekL r0).lbp ≤ rbp → (peekL r0).lbp ≤ ledsFollow fo ls →
    ∃ a ts' off', Parser.loop n rbp h acc left ts off = .ok ((.mk h (acc ++ ls), a), ts', off') ∧
      tk ts' = r0 ∧ (ls = [] → a = left)
  nud : ∀ (h : Nud) (ts : List PT) (r0 : List Tok) (off : Nat),
    h.size ≤ n → h.Legal → h.isCall = false → tk ts = h.toks ++ r0 →
    (peekL r0).lbp ≤ h.follow → (h.isQfield = true → peekL r0 ≠ .lparen) →
    ∃ a ts' off', Parser.nud n ts off = .ok ((h, a), ts', off') ∧ tk ts' = r0 ∧
      ((Expr.mk h []).isField = true → IsFieldAst a)
  led : ∀ (l : Led) (left : Ast) (ts : List PT) (r0 : List Tok) (off : Nat),
    l.size ≤ n → l.Legal → l.isCallDev = false → tk ts = l.toks ++ r0 →
    (peekL r0).lbp ≤ l.follow →
    ∃ a ts' off', Parser.led n left ts off = .ok ((l, a), ts', off') ∧ tk ts' = r0
  rhs : ∀ (r : Rhs) (k : Nat) (ts : List PT) (r0 : List Tok) (off : Nat),
    r.size ≤ n → r.Legal k → k < 60 → tk ts = r.toks ++ r0 → (peekL r0).lbp ≤ r.follow k →
    ∃ a ts' off', Parser.projRhs n k ts off = .ok ((r, a), ts', off') ∧ tk ts' = r0
  dot : ∀ (d : DotRhs) (k : Nat) (ts : List PT) (r0 : List Tok) (off : Nat),
    d.size ≤ n → d.Legal k → k < 60 → tk ts = d.toks ++ r0 → (peekL r0).lbp ≤ d.follow k →
    ∃ a ts' off', Parser.parseDot n k ts off = .ok ((d, a), ts', off') ∧ tk ts' = r0
  args : ∀ (e : Expr) (es : List Expr) (paren : Bool) (ts : List PT) (r0 : List Tok) (off : Nat)
    (acc : List Expr) (aacc : List Ast),
    argsSize (e :: es) ≤ n → argsLegal (e :: es) →
    tk ts = argsToks (e :: es) ++ closeTok_m paren :: r0 →
    ∃ as ts' off', Parser.parseList n paren ts off acc aacc = .ok ((acc ++ e :: es, as), ts', off') ∧
      tk ts' = r0
  kvs : ∀ (kv : Bool × String × Expr) (kvs : List (Bool × String × Expr)) (ts : List PT)
    (r0 : List Tok) (off : Nat) (acc : List (Bool × String × Expr)) (aacc : List (String × Ast)),
    kvsSize (kv :: kvs) ≤ n → kvsLegal (kv :: kvs) →
    tk ts = kvsToks (kv :: kvs) ++ .rbrace :: r0 →
    ∃ as ts' off', Parser.kvps n ts off acc aacc = .ok ((acc ++ kv :: kvs, as), ts', off') ∧
      tk ts' = r0

end JmesVerif
