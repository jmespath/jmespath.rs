import JmesVerif.Generated.Code
import JmesVerif.Lemmas.Slice
import JmesVerif.Model.Interp

/-!
# The hand-written model equals the code re-translated from the Rust source

`Generated/Code.lean` is written by `tools/rs2lean.py` from the *bodies* of the Rust functions on
every run (shallow embedding: checked `i32`/`usize` arithmetic, checked indexing, fuel-bounded
loops).  This file proves each generated definition equal to the hand-written model the property
theorems are about, for **all** inputs in the `i32` range and lists of any length up to
`i32::MAX` (what `array.len() as i32` assumes).  A semantic change of the Rust source changes
`Generated/Code.lean` and makes a proof here fail; a reformatting does not.

The proofs avoid depending on the exact shape of the generated terms: they unfold, normalise the
`Except` plumbing (`rs_norm`) and leave the case analysis over the `if`s, with its linear arithmetic, to
`grind` (or split every `if`/`match` and close the leaves with `omega`).
-/
namespace JmesVerif
open Generated.Code Spec

theorem ok_bind {ε α β} (a : α) (f : α → Except ε β) : (Except.ok a >>= f) = f a := rfl
theorem error_bind {ε α β} (e : ε) (f : α → Except ε β) :
    ((Except.error e : Except ε α) >>= f) = .error e := rfl
theorem ite_bind {ε α β} (c : Prop) [Decidable c] (a b : Except ε α) (f : α → Except ε β) :
    ((if c then a else b) >>= f) = if c then a >>= f else b >>= f := by split <;> rfl

/-- push `>>=` through `if`, evaluate it on `.ok`/`.error`, expose the range checks -/
macro "rs_norm" : tactic =>
  `(tactic| simp only [ite_bind, ok_bind, error_bind, i32Add, i32Sub, i32Neg, i32Check, usizeAdd, usizeSub])

def InI32 (x : Int) : Prop := I32_MIN ≤ x ∧ x ≤ I32_MAX

def OptInI32 : Option Int → Prop
  | none => True
  | some x => InI32 x

/-- discharge a concrete range hypothesis -/
macro "in_range" : tactic =>
  `(tactic| first | trivial | (simp only [OptInI32, InI32, I32_MIN, I32_MAX]; omega))

/-- the generated `adjust_slice_endpoint` never overflows and computes `adjustEndpoint`
(the step is unconstrained: it is only compared with 0) -/
theorem gen_adjust_eq (len endpoint step : Int) (h0 : 0 ≤ len) (h1 : len ≤ I32_MAX)
    (he : InI32 endpoint) :
    adjust_slice_endpoint len endpoint step = .ok (adjustEndpoint len endpoint step) := by
  unfold adjust_slice_endpoint adjustEndpoint
  rs_norm
  unfold InI32 I32_MIN I32_MAX at *
  grind

example : adjust_slice_endpoint 5 (-2147483648) (-1) = .ok (-1) ∧ adjustEndpoint 5 (-2147483648) (-1) = -1 :=
  ⟨gen_adjust_eq 5 (-2147483648) (-1) (by decide) (by decide) (by in_range), by decide⟩

/- `0 ≤ len` is needed: an array of 2^31 elements makes `array.len() as i32` wrap to `i32::MIN`, and `endpoint += len`
then overflows.  No property speaks of the behaviour outside this domain. -/
example : castUsizeToI32 2147483648 = -2147483648 := by decide

/-- what `array[i as usize]` does for an `i32` index, under `len ≤ i32::MAX`: a negative index
wraps to at least `2^64 - 2^31`, which is out of bounds -/
theorem index_cast_eq {α : Type} (xs : List α) (i : Int) (hi : I32_MIN ≤ i)
    (hlen : (xs.length : Int) ≤ I32_MAX) :
    indexChecked xs (castI32ToUsize i) =
      if i < 0 then .error .outOfBounds else
      match xs[i.toNat]? with
      | none => .error .outOfBounds
      | some x => .ok x := by
  unfold indexChecked castI32ToUsize
  unfold I32_MIN I32_MAX at *
  by_cases h : i < 0
  · have h' : ¬ i ≥ 0 := by omega
    have : xs[(18446744073709551616 + i).toNat]? = none := by
      apply List.getElem?_eq_none; omega
    simp only [h', if_false, h, if_true, this]
  · have h' : i ≥ 0 := by omega
    simp only [h', if_true, h, if_false]
    cases xs[i.toNat]? <;> rfl

theorem sat_eq (i step : Int) : i32SaturatingAdd i step = addI32 i step := rfl

theorem sat_range (i step : Int) : I32_MIN ≤ i32SaturatingAdd i step := by
  unfold i32SaturatingAdd I32_MIN I32_MAX; grind

/-- the generated loops accumulate (`push`), the hand model conses -/
def accOk {α : Type} (acc : List α) : Except Fault (List α) → Except Fault (List α)
  | .ok r => .ok (acc ++ r)
  | .error e => .error e

theorem accOk_nil {α : Type} (r : Except Fault (List α)) : accOk [] r = r := by
  cases r <;> simp [accOk]

/-- the first generated loop is `loopUp`, fuel for fuel, fault for fault -/
theorem gen_loop_up_eq {α : Type} (xs : List α) (b step : Int) (hlen : (xs.length : Int) ≤ I32_MAX) :
    ∀ (fuel : Nat) (acc : List α) (i : Int), I32_MIN ≤ i →
      slice_loop_1 xs step b fuel acc i = accOk acc (loopUp xs b step fuel i) := by
  intro fuel
  induction fuel with
  | zero => intro acc i _; rfl
  | succ n ih =>
    intro acc i hi
    unfold slice_loop_1 loopUp
    simp only [index_cast_eq xs i hi hlen, sat_eq]
    have hr := fun acc' => ih acc' (addI32 i step) (sat_range i step)
    split
    · split
      · rfl
      · cases hx : xs[i.toNat]? with
        | none => rfl
        | some x =>
          simp only [ok_bind, hr]
          cases loopUp xs b step n (addI32 i step) <;> simp [accOk]
    · simp [accOk]

/-- the second generated loop is `loopDown` -/
theorem gen_loop_down_eq {α : Type} (xs : List α) (b step : Int) (hlen : (xs.length : Int) ≤ I32_MAX) :
    ∀ (fuel : Nat) (acc : List α) (i : Int), I32_MIN ≤ i →
      slice_loop_2 xs step b fuel acc i = accOk acc (loopDown xs b step fuel i) := by
  intro fuel
  induction fuel with
  | zero => intro acc i _; rfl
  | succ n ih =>
    intro acc i hi
    unfold slice_loop_2 loopDown
    simp only [index_cast_eq xs i hi hlen, sat_eq]
    have hr := fun acc' => ih acc' (addI32 i step) (sat_range i step)
    split
    · split
      · rfl
      · cases hx : xs[i.toNat]? with
        | none => rfl
        | some x =>
          simp only [ok_bind, hr]
          cases loopDown xs b step n (addI32 i step) <;> simp [accOk]
    · simp [accOk]

theorem cast_len (n : Nat) (h : (n : Int) ≤ I32_MAX) : castUsizeToI32 n = n := by
  unfold castUsizeToI32; unfold I32_MAX at h
  have : n % 4294967296 = n := Nat.mod_eq_of_lt (by omega)
  rw [this]
  have : n < 2147483648 := by omega
  simp [this]

/-- the hand model with the fuel as a parameter (`sliceList` is the instance `xs.length + 1`) -/
def sliceListFuel {α : Type} (fuel : Nat) (xs : List α) (start stop : Option Int) (step : Int) :
    Except Fault (List α) :=
  let len : Int := xs.length
  if len = 0 then .ok [] else
  if step > 0 then loopUp xs (sliceB len stop step) step fuel (sliceA len start step)
  else loopDown xs (sliceB len stop step) step fuel (sliceA len start step)

theorem sliceListFuel_default {α : Type} (xs : List α) (start stop : Option Int) (step : Int) :
    sliceListFuel (xs.length + 1) xs start stop step = sliceList xs start stop step := rfl

theorem adjust_lower (len e step : Int) (h0 : 0 ≤ len) : I32_MIN ≤ adjustEndpoint len e step := by
  unfold adjustEndpoint I32_MIN; grind

macro "rs_lower" : tactic =>
  `(tactic| first | (unfold I32_MIN I32_MAX at *; omega) | (apply adjust_lower; omega))

/-- the generated `slice` is the hand model, for every fuel, fault for fault: no arithmetic site
of the function itself overflows, and the loops correspond step by step.  (The step needs no range
hypothesis: it is only compared with 0 and fed to `saturating_add`.) -/
theorem gen_slice_eq_fuel {α : Type} (fuel : Nat) (xs : List α) (start stop : Option Int) (step : Int)
    (hlen : (xs.length : Int) ≤ I32_MAX) (hstart : OptInI32 start) (hstop : OptInI32 stop) :
    slice fuel xs start stop step = sliceListFuel fuel xs start stop step := by
  have h0 : (0 : Int) ≤ xs.length := by omega
  have hadj : ∀ e, InI32 e →
      adjust_slice_endpoint xs.length e step = .ok (adjustEndpoint xs.length e step) :=
    fun e he => gen_adjust_eq _ e step h0 hlen he
  unfold slice sliceListFuel
  simp only [cast_len _ hlen]
  by_cases hz : (xs.length : Int) = 0
  · simp only [hz, if_true]
  -- deciding the sign of the step first settles every `if step < 0` / `if step > 0` of both sides at once
  have hsign : (step < 0 ∧ ¬ step > 0) ∨ (¬ step < 0 ∧ step > 0) ∨ (¬ step < 0 ∧ ¬ step > 0) := by omega
  rcases hsign with ⟨hn, hp⟩ | ⟨hn, hp⟩ | ⟨hn, hp⟩ <;>
    cases start <;> cases stop <;> simp only [OptInI32] at hstart hstop <;>
    (try simp only [hadj _ hstart]) <;> (try simp only [hadj _ hstop]) <;>
    simp only [hz, hn, hp, if_true, if_false, sliceA, sliceB] <;> rs_norm <;> repeat' split
  -- a source that stores one of the tests in a `let` reaches the leaves as `decide (..) = true`; this normalises it
  all_goals (try simp only [decide_eq_true_eq, decide_eq_false_iff_not, Bool.not_eq_true] at *)
  all_goals first
    | (rw [gen_loop_up_eq xs _ _ hlen _ _ _ (by rs_lower), accOk_nil]; done)
    | (rw [gen_loop_down_eq xs _ _ hlen _ _ _ (by rs_lower), accOk_nil]; done)
    | (exfalso; omega)
    | (exfalso; unfold I32_MIN I32_MAX at *; omega)

/-- any fuel of at least `len + 1` gives the hand model's result -/
theorem sliceListFuel_eq {α : Type} (fuel : Nat) (xs : List α) (start stop : Option Int) (step : Int)
    (hfuel : xs.length + 1 ≤ fuel) (hstep : step ≠ 0) (hlen : (xs.length : Int) ≤ I32_MAX) :
    sliceListFuel fuel xs start stop step = sliceList xs start stop step := by
  rw [← sliceListFuel_default]
  unfold sliceListFuel
  have h0 : (0 : Int) ≤ xs.length := by omega
  by_cases hz : (xs.length : Int) = 0
  · simp only [hz, if_true]
  · simp only [hz, if_false]
    by_cases hs : step > 0
    · simp only [hs, if_true]
      have ha := sliceA_up xs.length start step h0 hs
      have hb := sliceB_up xs.length stop step h0 hs
      rw [loopUp_eq xs _ step hs hb hlen fuel _ ha (by omega),
        loopUp_eq xs _ step hs hb hlen (xs.length + 1) _ ha (by omega)]
    · simp only [hs, if_false]
      have hn : step < 0 := by omega
      have ha := sliceA_down xs.length start step (by omega) hn
      have hb := sliceB_down xs.length stop step h0 hn
      rw [loopDown_eq xs _ step hn hb hlen fuel _ ha (by omega),
        loopDown_eq xs _ step hn hb hlen (xs.length + 1) _ ha (by omega)]

/-- the fuel hypothesis is not idle: `len + 1` always suffices -/
theorem gen_slice_eq {α : Type} (fuel : Nat) (xs : List α) (start stop : Option Int) (step : Int)
    (hfuel : xs.length + 1 ≤ fuel) (hlen : (xs.length : Int) ≤ I32_MAX)
    (hstart : OptInI32 start) (hstop : OptInI32 stop) (hstep : step ≠ 0) :
    slice fuel xs start stop step = sliceList xs start stop step := by
  rw [gen_slice_eq_fuel fuel xs start stop step hlen hstart hstop,
    sliceListFuel_eq fuel xs start stop step hfuel hstep hlen]

example : slice 6 [10, 20, 30, 40, 50] (some (-2)) none (-2147483648) = .ok [40] ∧
    sliceList [10, 20, 30, 40, 50] (some (-2)) none (-2147483648) = .ok [40] :=
  ⟨rfl, rfl⟩
example : slice 6 [10, 20, 30, 40, 50] (some (-2)) none (-2147483648)
    = sliceList [10, 20, 30, 40, 50] (some (-2)) none (-2147483648) :=
  gen_slice_eq 6 _ _ _ _ (by decide) (by decide) (by in_range) (by in_range) (by decide)

theorem get_index_eq {α : Type} (xs : List α) (i : Nat) : get_index xs i = getIndex xs i := by
  unfold get_index getIndex
  cases xs[i]? <;> rfl

theorem indexChecked_eq {α : Type} (xs : List α) (i : Nat) (h : i < xs.length) :
    indexChecked xs i = .ok xs[i] := by
  simp [indexChecked, List.getElem?_eq_getElem h]

/-- `array.len() - adjusted_index` never underflows and `array[..]` is in bounds -/
theorem get_negative_index_eq {α : Type} (xs : List α) (i : Nat) :
    get_negative_index xs i = .ok (getNegIndex xs i) := by
  unfold get_negative_index getNegIndex
  rs_norm
  repeat' split
  all_goals first
    | (exfalso; omega)
    | rfl
    | (simp (disch := omega) only [ok_bind, indexChecked_eq, List.getElem?_eq_getElem]; done)

theorem cast_nonneg (x : Int) (h : 0 ≤ x) : castI32ToUsize x = x.toNat := by
  unfold castI32ToUsize; simp [h]

/-- the `Ast::Index` arm on an array, for every index except `i32::MIN` -/
theorem gen_index_eq {α : Type} (xs : List α) (idx : Int) (h1 : I32_MIN < idx) (h2 : idx ≤ I32_MAX) :
    index xs idx = .ok (indexList xs idx) := by
  unfold index indexList
  simp only [get_index_eq, get_negative_index_eq]
  rs_norm
  unfold I32_MIN I32_MAX at *
  grind [cast_nonneg]

/-- `-idx` overflows exactly at `i32::MIN`; the lexer never produces it
(`C05_number_tokens_no_overflow`) -/
theorem gen_index_min_overflows {α : Type} (xs : List α) : index xs I32_MIN = .error .overflow := by
  unfold index
  rs_norm
  unfold I32_MIN I32_MAX
  grind

example : index [10, 20, 30] (-2147483647) = .ok none ∧ index [10, 20, 30] (-1) = .ok (some 30) :=
  ⟨gen_index_eq _ _ (by decide) (by decide), gen_index_eq _ _ (by decide) (by decide)⟩

/-- the `Err(JmespathError::from_ctx(ctx, ErrorReason::Runtime(e)))` wrapper: `ctx.offset` is attached -/
def arityToExcept (off : Nat) : ArityResult → Except EvalErr Unit
  | .ok => .ok ()
  | .notEnough e a => .error (.runtime (.notEnough e a) off)
  | .tooMany e a => .error (.runtime (.tooMany e a) off)

theorem gen_validate_arity_eq (s : Sig) (actual off : Nat) :
    arityToExcept off (validate_arity s.inputs s.variadic actual) = s.validateArity actual off := by
  unfold validate_arity Sig.validateArity arityToExcept
  grind

example : arityToExcept 7 (validate_arity [ArgT.number, ArgT.string] (none : Option ArgT) 3)
    = .error (.runtime (.tooMany 2 3) 7) := rfl

/-- what the translated functions observe of a value -/
def viewOf : Val → VariableView
  | .null => .Null
  | .bool b => .Bool b
  | .num _ => .Number
  | .str s => .String s.isEmpty
  | .arr xs => .Array xs.isEmpty
  | .obj kvs => .Object kvs.isEmpty
  | .expref _ => .Expref

def jtypeOf : JmespathType → JType
  | .Null => .null | .String => .string | .Number => .number | .Boolean => .boolean
  | .Array => .array | .Object => .object | .Expref => .expref

def cmpOf : Cmp → Comparator
  | .eq => .Equal | .ne => .NotEqual | .lt => .LessThan | .le => .LessThanEqual
  | .gt => .GreaterThan | .ge => .GreaterThanEqual

/-- `Variable::is_number` -/
def isNum : Val → Bool
  | .num _ => true
  | _ => false

/-- the meaning of the Rust operators on `Variable` (`impl PartialEq`, `impl Ord`) in the model -/
def relEval (a b : Val) : RelOp → Bool
  | .eq => Val.beq a b
  | .ne => !Val.beq a b
  | .lt => Val.cmp a b == .lt
  | .le => Val.cmp a b == .eq || Val.cmp a b == .lt
  | .gt => Val.cmp a b == .gt
  | .ge => Val.cmp a b == .eq || Val.cmp a b == .gt

theorem gen_truthy_eq (v : Val) : is_truthy (viewOf v) = v.truthy := by
  cases v <;> rfl

theorem gen_type_eq (v : Val) : jtypeOf (get_type (viewOf v)) = v.type := by
  cases v <;> rfl

/-- the gate (which comparators need two numbers) and the operator each comparator maps to -/
theorem gen_compare_gate_eq (c : Cmp) (a b : Val) :
    Val.compare c a b = (compare (cmpOf c) (isNum a) (isNum b)).map (relEval a b) := by
  -- the gate looks at the right operand only when the left one is a number
  cases a with
  | num x => cases c <;> cases b <;> rfl
  | _ => cases c <;> rfl

example : is_truthy (viewOf (.str "")) = false ∧ jtypeOf (get_type (viewOf (.arr []))) = .array ∧
    compare (cmpOf .lt) (isNum (.str "a")) (isNum (.num (.pos 1))) = none ∧
    compare (cmpOf .le) (isNum (.num (.pos 2))) (isNum (.num (.pos 1))) = some .le := by decide

end JmesVerif

#print axioms JmesVerif.gen_adjust_eq
#print axioms JmesVerif.gen_slice_eq_fuel
#print axioms JmesVerif.gen_slice_eq
#print axioms JmesVerif.gen_index_eq
#print axioms JmesVerif.gen_index_min_overflows
#print axioms JmesVerif.gen_validate_arity_eq
#print axioms JmesVerif.gen_truthy_eq
#print axioms JmesVerif.gen_type_eq
#print axioms JmesVerif.gen_compare_gate_eq
