import JmesVerif.Model.Compare
import JmesVerif.Lemmas.F64Spec
namespace JmesVerif

theorem F64.feq_comm (a b : F64) : F64.feq a b = F64.feq b a := by
  cases a <;> cases b <;> simp [F64.feq, eq_comm, Bool.beq_comm]

theorem F64.feq_self (a : F64) (h : a ≠ .nan) : F64.feq a a = true := by
  cases a <;> simp_all [F64.feq]

/-- the magnitude of a rounded result does not depend on signs -/
theorem ofRatSigned_abs (z : Bool) (q : Rat) : (F64.ofRatSigned z q).abs =
    match F64.roundPos (F64.absq q) with
    | none => .inf false
    | some (m, e) => .fin false m e := by
  rcases F64.ofRatSigned_cases z q with ⟨hr, h⟩ | ⟨m, e, hr, s, h, _⟩ <;> rw [h, hr] <;> rfl

theorem F64.sub_abs_comm (a b : F64) : (F64.sub a b).abs = (F64.sub b a).abs := by
  cases a with
  | nan => cases b <;> simp [F64.sub, F64.add, F64.neg, F64.abs]
  | inf s =>
    cases b with
    | nan => simp [F64.sub, F64.add, F64.neg, F64.abs]
    | inf t => cases s <;> cases t <;> simp [F64.sub, F64.add, F64.neg, F64.abs]
    | fin t m e => simp [F64.sub, F64.add, F64.neg, F64.abs]
  | fin s m e =>
    cases b with
    | nan => simp [F64.sub, F64.add, F64.neg, F64.abs]
    | inf t => simp [F64.sub, F64.add, F64.neg, F64.abs]
    | fin t m' e' =>
      simp only [F64.sub, F64.neg, F64.add]
      have h1 := (F64.neg_spec (.fin t m' e')).2
      have h2 := (F64.neg_spec (.fin s m e)).2
      simp only [F64.neg] at h1 h2
      rw [h1, h2]
      have : (F64.fin t m' e').toRat + -(F64.fin s m e).toRat = -((F64.fin s m e).toRat + -(F64.fin t m' e').toRat) := by
        rw [Rat.neg_add, Rat.neg_neg, Rat.add_comm]
      rw [this]
      rw [ofRatSigned_abs, ofRatSigned_abs, F64.absq_neg]

theorem F64.add_comm' (a b : F64) : F64.add a b = F64.add b a := by
  cases a with
  | nan => cases b <;> simp [F64.add]
  | inf s =>
    cases b with
    | nan => simp [F64.add]
    | inf t => cases s <;> cases t <;> simp [F64.add]
    | fin t m e => simp [F64.add]
  | fin s m e =>
    cases b with
    | nan => simp [F64.add]
    | inf t => simp [F64.add]
    | fin t m' e' => simp only [F64.add]; rw [Rat.add_comm, Bool.and_comm]

theorem floatEq_comm (a b : F64) : floatEq a b = floatEq b a := by
  simp only [floatEq]
  rw [F64.feq_comm a b, F64.sub_abs_comm a b, F64.add_comm' a.abs b.abs, Bool.or_comm (!a.isNormal)]

theorem floatEq_self (a : F64) (h : a ≠ .nan) : floatEq a a = true := by
  simp [floatEq, F64.feq_self a h]

end JmesVerif
