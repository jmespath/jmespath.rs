import JmesVerif.Lemmas.FloatExactShortest
import JmesVerif.Lemmas.JsonRoundTrip
/-!
# Driving the JSON number parser through the layouts of `floatText`

`floatBody ds ex` is the text serde_json prints for the digits `ds` with scientific exponent `ex`
(`ddd.ddd`, `ddd000.0`, `0.000ddd` or `d.ddde±xx`), each an instance of `numText ip fr x = ip[.fr][e±x]`.
The parser reads such a text as the significand written by `ip ++ fr` and the decimal exponent
`E = x − |fr|` (`parseInteger_numText`); on the exact domain (`DomainCond`) the significand is a double
and `|E| ≤ 22`, so `f64FromParts_exact_of_repr'` returns the double nearest to the number the digits spell.
-/
namespace JmesVerif
namespace FloatExact
open F64 JsonText JsonPrint JsonRT

/-- a list of decimal digit characters -/
def Digits (l : List Char) : Prop := ∀ c ∈ l, JsonText.isDigit c = true

theorem Digits.nil : Digits [] := by intro c h; simp at h
theorem Digits.cons {c : Char} {l : List Char} (hc : JsonText.isDigit c = true) (hl : Digits l) :
    Digits (c :: l) := by
  intro x hx
  rcases List.mem_cons.1 hx with rfl | h
  · exact hc
  · exact hl x h
theorem Digits.tail {c : Char} {l : List Char} (h : Digits (c :: l)) : Digits l :=
  fun x hx => h x (List.mem_cons_of_mem _ hx)
theorem Digits.head {c : Char} {l : List Char} (h : Digits (c :: l)) : JsonText.isDigit c = true :=
  h c (by simp)
theorem Digits.append {l m : List Char} (hl : Digits l) (hm : Digits m) : Digits (l ++ m) := by
  intro x hx
  rcases List.mem_append.1 hx with h | h
  · exact hl x h
  · exact hm x h
theorem Digits.zeros (n : Nat) : Digits (JsonPrint.zeros n) := by
  intro c hc
  simp [JsonPrint.zeros] at hc
  rw [hc.2]; decide
theorem Digits.take {l : List Char} (h : Digits l) (k : Nat) : Digits (l.take k) :=
  fun x hx => h x (List.mem_of_mem_take hx)
theorem Digits.drop {l : List Char} (h : Digits l) (k : Nat) : Digits (l.drop k) :=
  fun x hx => h x (List.mem_of_mem_drop hx)
theorem Digits.toDigits (n : Nat) : Digits (Nat.toDigits 10 n) :=
  fun _ hc => isDigit_of_mem_toDigits hc

/-- `rest` does not start with a digit -/
def NoDigit (rest : List Char) : Prop := ∀ c, rest.head? = some c → ¬ JsonText.isDigit c = true

theorem NoDigit.of_numEnd {rest : List Char} (h : NumEnd rest) : NoDigit rest := fun c hc => (h c hc).1
theorem NoDigit.cons {c : Char} (h : JsonText.isDigit c = false) (r : List Char) : NoDigit (c :: r) := by
  intro x hx; simp at hx; subst hx; simp [h]

theorem ofDigitChars_lt (l : List Char) : ∀ init, Digits l →
    Nat.ofDigitChars 10 l init < 10 ^ l.length * (init + 1) := by
  induction l with
  | nil => intro init _; simp
  | cons c l ih =>
    intro init h
    have h2 := (isDigit_iff c).1 h.head
    have := ih (10 * init + (c.toNat - '0'.toNat)) h.tail
    rw [Nat.ofDigitChars_cons, List.length_cons, Nat.pow_succ]
    have hle : 10 * init + (c.toNat - '0'.toNat) + 1 ≤ 10 * (init + 1) := by
      have : '0'.toNat = 48 := rfl
      omega
    calc _ < 10 ^ l.length * (10 * init + (c.toNat - '0'.toNat) + 1) := this
      _ ≤ 10 ^ l.length * (10 * (init + 1)) := Nat.mul_le_mul_left _ hle
      _ = _ := by rw [Nat.mul_assoc]

theorem ofDigitChars_lt_zero {l : List Char} (h : Digits l) : Nat.ofDigitChars 10 l 0 < 10 ^ l.length := by
  simpa using ofDigitChars_lt l 0 h

/-- the integer part of a JSON number: `0`, or digits of which the first is not `0` -/
def IntPart (ip : List Char) : Prop :=
  ip = ['0'] ∨ ∃ c l, ip = c :: l ∧ 49 ≤ c.toNat ∧ c.toNat ≤ 57 ∧ Digits l

theorem parseInteger_intPart (positive : Bool) {ip : List Char} (hip : IntPart ip) (rest : List Char)
    (hr : NoDigit rest) (hv : Nat.ofDigitChars 10 ip 0 ≤ U64_MAX) :
    parseInteger positive (ip ++ rest) = parseNumberTail positive (Nat.ofDigitChars 10 ip 0) rest := by
  rcases hip with rfl | ⟨c, l, rfl, h1, h2, hl⟩
  · cases rest with
    | nil => rfl
    | cons c cs =>
      have := hr c rfl
      simp [parseInteger, this, Nat.ofDigitChars_cons]
  · have hval : Nat.ofDigitChars 10 (c :: l) 0 = Nat.ofDigitChars 10 l (digitVal c) := by
      rw [ofDigitChars_cons, Nat.zero_mul, Nat.zero_add]
    rw [hval] at hv ⊢
    have hloop := digits_loop l (digitVal c) rest hl hr hv
    rw [List.cons_append, parseInteger]
    · simp only [(one_le_iff c).2 ⟨h1, h2⟩, if_true, hloop]
      simp
    · intro h; rw [h] at h1; revert h1; decide

theorem takeDigits_append (l rest : List Char) (hl : Digits l) (hr : NoDigit rest) :
    takeDigits (l ++ rest) = (l, rest) := by
  induction l with
  | nil =>
    cases rest with
    | nil => simp [takeDigits]
    | cons c cs =>
      have := hr c rfl
      simp [takeDigits, this]
  | cons d ds ih =>
    simp only [List.cons_append, takeDigits, hl.head, if_true, ih hl.tail]

theorem acc_spec (ds : List Char) : ∀ exp, Digits ds → Nat.ofDigitChars 10 ds exp < 214748364 →
    parseExponent.acc ds exp = some (Nat.ofDigitChars 10 ds exp) := by
  induction ds with
  | nil => intro exp _ _; simp [parseExponent.acc]
  | cons d ds ih =>
    intro exp hd hlt
    rw [ofDigitChars_cons] at hlt ⊢
    have h1 := le_ofDigitChars ds (exp * 10 + digitVal d)
    rw [parseExponent.acc]
    rw [if_neg]
    · exact ih _ hd.tail hlt
    · unfold I32_MAXN
      omega

theorem satI32_small {x : Int} (h1 : -3000 ≤ x) (h2 : x ≤ 3000) : satI32 x = x := by
  unfold satI32
  rw [if_neg (by omega), if_neg (by omega)]

theorem toDigits_cons_val (n : Nat) : ∃ d0 ds, Nat.toDigits 10 n = d0 :: ds ∧ Digits (d0 :: ds) ∧
    Nat.ofDigitChars 10 ds (digitVal d0) = n := by
  obtain ⟨d0, ds, he, _⟩ := toDigits_head_isDigit n
  refine ⟨d0, ds, he, he ▸ Digits.toDigits n, ?_⟩
  have := @Nat.ofDigitChars_ten_toDigits n
  rw [he, ofDigitChars_cons] at this
  simpa using this

/-- the exponent part of a number text, if there is one: `e±x` as serde_json prints it -/
def expText : Option Int → List Char
  | none => []
  | some x => 'e' :: ((if x < 0 then ['-'] else ['+']) ++ natDigits x.natAbs)

/-- a signed exponent is added to the exponent so far -/
theorem parseExponent_expText (positive : Bool) (S : Nat) (start ex : Int) (rest : List Char)
    (hex : ex.natAbs ≤ 2000) (h1 : -1000 ≤ start) (h2 : start ≤ 1000) (hr : NoDigit rest) :
    parseExponent positive S start (expText (some ex) ++ rest) =
      (f64FromParts positive S (start + ex)).map (·, rest) := by
  obtain ⟨d0, ds, he, hd, hval⟩ := toDigits_cons_val ex.natAbs
  have htd := takeDigits_append _ rest (Digits.toDigits ex.natAbs) hr
  have hacc := acc_spec ds (digitVal d0) hd.tail (by omega)
  rw [he, List.cons_append] at htd
  rw [hval] at hacc
  show parseExponent positive S start
    ('e' :: ((if ex < 0 then ['-'] else ['+']) ++ natDigits ex.natAbs ++ rest)) = _
  rw [natDigits_eq, he]
  by_cases h : ex < 0
  · rw [if_pos h, show start + ex = start - (ex.natAbs : Int) by omega,
      ← satI32_small (x := start - (ex.natAbs : Int)) (by omega) (by omega)]
    simp only [List.cons_append, List.nil_append, parseExponent, htd, hacc, Bool.false_eq_true, if_false]
    cases f64FromParts positive S (satI32 (start - (ex.natAbs : Int))) <;> rfl
  · rw [if_neg h, show start + ex = start + (ex.natAbs : Int) by omega,
      ← satI32_small (x := start + (ex.natAbs : Int)) (by omega) (by omega)]
    simp only [List.cons_append, List.nil_append, parseExponent, htd, hacc, if_true]
    cases f64FromParts positive S (satI32 (start + (ex.natAbs : Int))) <;> rfl

theorem decimal_loop (fr : List Char) : ∀ (sig : Nat) (ea : Int) (rest : List Char),
    Digits fr → NoDigit rest → Nat.ofDigitChars 10 fr sig ≤ U64_MAX →
    parseDecimal.digits (fr ++ rest) sig ea = (Nat.ofDigitChars 10 fr sig, ea - fr.length, false, rest) := by
  induction fr with
  | nil =>
    intro sig ea rest _ hr _
    cases rest with
    | nil => simp [parseDecimal.digits]
    | cons c cs =>
      have := hr c rfl
      simp [parseDecimal.digits, this]
  | cons d ds ih =>
    intro sig ea rest hd hr hle
    have hdd : JsonText.isDigit d = true := hd.head
    rw [ofDigitChars_cons] at hle ⊢
    have h1 := le_ofDigitChars ds (sig * 10 + digitVal d)
    have h2 := (isDigit_iff d).1 hdd
    have hv2 : digitVal d = d.toNat - 48 := rfl
    simp only [List.cons_append, parseDecimal.digits, hdd, if_true]
    rw [if_neg]
    · rw [ih _ _ rest hd.tail hr hle]
      simp only [List.length_cons, Prod.mk.injEq, true_and, and_true]
      omega
    · unfold U64_MAX at *
      omega

/-- fraction digits, then an exponent part or the end of the number: each digit lowers the exponent
by one -/
theorem parseDecimal_frac (positive : Bool) (sig : Nat) (dot : Char) (fr : List Char) (x : Option Int)
    (rest : List Char) (hfr : Digits fr) (hne : fr ≠ []) (hfl : fr.length ≤ 1000)
    (hx : (x.getD 0).natAbs ≤ 2000) (hr : NumEnd rest) (hv : Nat.ofDigitChars 10 fr sig ≤ U64_MAX) :
    parseDecimal positive sig 0 (dot :: (fr ++ (expText x ++ rest))) =
      (f64FromParts positive (Nat.ofDigitChars 10 fr sig) (x.getD 0 - fr.length)).map (·, rest) := by
  have hlen : 0 < fr.length := List.length_pos_iff.2 hne
  cases x with
  | none =>
    show parseDecimal positive sig 0 (dot :: (fr ++ rest)) = _
    rw [parseDecimal]
    simp only [decimal_loop fr sig 0 rest hfr (NoDigit.of_numEnd hr) hv]
    rw [if_neg (by simp), if_neg (by omega),
      show (none : Option Int).getD 0 - (fr.length : Int) = 0 + (0 - (fr.length : Int)) by simp]
    split
    · exact absurd rfl (hr _ rfl).2.2.1
    · exact absurd rfl (hr _ rfl).2.2.2.1
    · rfl
  | some e =>
    show parseDecimal positive sig 0 (dot :: (fr ++ 'e' :: _)) = _
    rw [parseDecimal]
    simp only [decimal_loop fr sig 0 _ hfr (NoDigit.cons (c := 'e') (by decide) _) hv]
    rw [if_neg (by simp), if_neg (by omega),
      show (some e).getD 0 - (fr.length : Int) = 0 + (0 - (fr.length : Int)) + e by simp; omega]
    exact parseExponent_expText positive _ _ e rest hx (by omega) (by omega) (NoDigit.of_numEnd hr)

/-- serde_json's layout of the digits `ds` with scientific exponent `ex` (the body of `floatText`) -/
def floatBody (ds : List Char) (ex : Int) : List Char :=
  if -5 ≤ ex ∧ ex < 16 then
    if ex ≥ 0 then
      let k := ex.toNat + 1
      if ds.length ≤ k then ds ++ zeros (k - ds.length) ++ ['.', '0']
      else ds.take k ++ ['.'] ++ ds.drop k
    else ['0', '.'] ++ zeros ((-ex).toNat - 1) ++ ds
  else
    let mant := match ds with
      | [d] => [d]
      | d :: rest => d :: '.' :: rest
      | [] => ['0']
    mant ++ ['e'] ++ (if ex < 0 then ['-'] else ['+']) ++ natDigits ex.natAbs

theorem floatText_fin (s : Bool) (m : Nat) (e : Int) (hm : m ≠ 0) :
    (floatText (.fin s m e)).toList =
      (if s then ['-'] else []) ++
        floatBody (shortest (.fin false m e)).1 (shortest (.fin false m e)).2 := by
  cases m with
  | zero => exact absurd rfl hm
  | succ k =>
    simp only [floatText, String.toList_ofList]
    rfl

/-- the number the digits spell: `d₁.d₂d₃… × 10^ex = D · 10^(ex − (n − 1))` -/
def spelled (ds : List Char) (ex : Int) : Rat :=
  (Nat.ofDigitChars 10 ds 0 : Nat) * JsonPrint.pow10 (ex - ((ds.length : Int) - 1))

/-- **the exact domain**, on the printer's output (digits `ds`, scientific exponent `ex`):
the search succeeded, at most 15 significant digits, the decimal exponent of the integer significand
within `±22`, and — in the layout `ddd000.0`, where the parser also accumulates the appended `0` — the
accumulated significand `ddd0000 = D · 10^(ex + 2 − |ds|)` is itself a double (converting it to `f64`
is exact; true in particular whenever it is at most `2^53`, see `DomainCond.of_le`).  Without the last
clause the statement is false: `7205759403792820.0` (15 digits, exponent 1) is read back as
`7205759403792819.0`, because `72057594037928200` is not a double. -/
def DomainCond (ds : List Char) (ex : Int) : Prop :=
  ds ≠ ['0'] ∧ ds.length ≤ 15 ∧
  -22 ≤ ex - ((ds.length : Int) - 1) ∧ ex - ((ds.length : Int) - 1) ≤ 22 ∧
  (0 ≤ ex ∧ ex < 16 ∧ (ds.length : Int) ≤ ex + 1 →
    (F64.ofNat (Nat.ofDigitChars 10 ds 0 * 10 ^ (ex.toNat + 2 - ds.length))).toRat =
      ((Nat.ofDigitChars 10 ds 0 * 10 ^ (ex.toNat + 2 - ds.length) : Nat) : Rat))

instance (ds : List Char) (ex : Int) : Decidable (DomainCond ds ex) := by
  unfold DomainCond; exact inferInstance

/-- the simpler sufficient form of the last clause: the accumulated significand is at most `2^53` -/
theorem DomainCond.of_le {ds : List Char} {ex : Int} (h0 : ds ≠ ['0']) (h1 : ds.length ≤ 15)
    (h2 : -22 ≤ ex - ((ds.length : Int) - 1)) (h3 : ex - ((ds.length : Int) - 1) ≤ 22)
    (h4 : 0 ≤ ex ∧ ex < 16 ∧ (ds.length : Int) ≤ ex + 1 →
      Nat.ofDigitChars 10 ds 0 * 10 ^ (ex.toNat + 2 - ds.length) ≤ 2 ^ 53) : DomainCond ds ex :=
  ⟨h0, h1, h2, h3, fun h => (ofNat_exact _ (h4 h)).2⟩

/-- the text `ip[.fr][e±x]` of a number with integer part `ip`, fraction digits `fr`, exponent `x` -/
def numText (ip fr : List Char) (x : Option Int) : List Char :=
  ip ++ ((if fr = [] then [] else '.' :: fr) ++ expText x)

/-- **A number with a fraction or an exponent part is read as the double nearest to its value**, when
the digits `ip ++ fr` write a significand `D·10^j` that is itself a double and the decimal exponent
`x − |fr|` is within `±22`: the parser accumulates the significand and the exponent exactly, and
`f64FromParts_exact_of_repr'` rounds once. -/
theorem parseInteger_numText (positive : Bool) {ip fr : List Char} {x : Option Int} (rest : List Char)
    (hip : IntPart ip) (hfr : Digits fr) (hfx : fr ≠ [] ∨ x ≠ none) (hfl : fr.length ≤ 1000)
    (hr : NumEnd rest) {D j : Nat} {t : Int}
    (hSD : Nat.ofDigitChars 10 (ip ++ fr) 0 = D * 10 ^ j)
    (hS : (F64.ofNat (D * 10 ^ j)).toRat = ((D * 10 ^ j : Nat) : Rat)) (hb : D * 10 ^ j ≤ U64_MAX)
    (hE : (x.getD 0 - fr.length).natAbs ≤ 22) (hj : (j : Int) + (x.getD 0 - fr.length) = t) :
    parseInteger positive (numText ip fr x ++ rest) =
      some (.f (if positive then ofRat ((D : Rat) * JsonPrint.pow10 t)
                else (ofRat ((D : Rat) * JsonPrint.pow10 t)).neg), rest) := by
  rw [← hSD] at hS hb
  have hV : ((Nat.ofDigitChars 10 (ip ++ fr) 0 : Nat) : Rat) * JsonPrint.pow10 (x.getD 0 - fr.length) =
      (D : Rat) * JsonPrint.pow10 t := by
    rw [hSD, Rat.natCast_mul, ← p10_natCast, Rat.mul_assoc, ← p10_add, hj]
  have hF := f64FromParts_exact_of_repr' positive _ _ hS (by unfold U64_MAX at hb; omega) hE
  rw [hV] at hF
  rw [Nat.ofDigitChars_append] at hb hF
  have hI : Nat.ofDigitChars 10 ip 0 ≤ U64_MAX := Nat.le_trans (le_ofDigitChars fr _) hb
  have hx : (x.getD 0).natAbs ≤ 2000 := by omega
  unfold numText
  rw [List.append_assoc]
  by_cases hf : fr = []
  · subst hf
    obtain ⟨e, rfl⟩ : ∃ e, x = some e := by
      cases x with
      | none => exact absurd rfl (hfx.resolve_left (fun h => h rfl))
      | some e => exact ⟨e, rfl⟩
    rw [if_pos rfl, List.nil_append]
    show parseInteger positive (ip ++ 'e' :: _) = _
    rw [parseInteger_intPart positive hip _ (NoDigit.cons (c := 'e') (by decide) _) hI]
    show Option.map _ (parseExponent positive _ 0 (expText (some e) ++ rest)) = _
    rw [parseExponent_expText positive _ 0 e rest hx (by omega) (by omega) (NoDigit.of_numEnd hr)]
    simp only [Option.getD_some, List.length_nil, Nat.ofDigitChars_nil] at hF
    rw [show (0 : Int) + e = e - ((0 : Nat) : Int) by simp, hF]
    rfl
  · rw [if_neg hf, List.cons_append, List.cons_append, List.append_assoc,
      parseInteger_intPart positive hip _ (NoDigit.cons (by decide) _) hI]
    show Option.map _ (parseDecimal positive _ 0 _) = _
    rw [parseDecimal_frac positive _ '.' fr x rest hfr hf hfl hx hr hb, hF]
    rfl

/-- … in particular when `ip ++ fr` writes the same number as at most 15 digits `ds` -/
theorem parseInteger_numText_short (positive : Bool) {ip fr : List Char} {x : Option Int} (rest : List Char)
    (hip : IntPart ip) (hfr : Digits fr) (hfx : fr ≠ [] ∨ x ≠ none) (hfl : fr.length ≤ 1000)
    (hr : NumEnd rest) {ds : List Char} (hds : Digits ds) (hn : ds.length ≤ 15)
    (hSD : Nat.ofDigitChars 10 (ip ++ fr) 0 = Nat.ofDigitChars 10 ds 0)
    {t : Int} (hj : x.getD 0 - fr.length = t) (hE : t.natAbs ≤ 22) :
    parseInteger positive (numText ip fr x ++ rest) =
      some (.f (if positive then ofRat ((Nat.ofDigitChars 10 ds 0 : Nat) * JsonPrint.pow10 t)
                else (ofRat ((Nat.ofDigitChars 10 ds 0 : Nat) * JsonPrint.pow10 t)).neg), rest) := by
  have hD := ofDigitChars_lt_zero hds
  have : 10 ^ ds.length ≤ 10 ^ 15 := Nat.pow_le_pow_right (by decide) hn
  have h53 : Nat.ofDigitChars 10 ds 0 * 10 ^ 0 ≤ 2 ^ 53 := by
    have : 10 ^ 15 ≤ 2 ^ 53 := by decide
    omega
  exact parseInteger_numText positive rest hip hfr hfx hfl hr (j := 0)
    (by rw [hSD, Nat.pow_zero, Nat.mul_one]) (ofNat_exact _ h53).2 (by unfold U64_MAX; omega)
    (by omega) (by omega)

/-- **every layout of `floatText` is read back exactly on the exact domain** -/
theorem parseInteger_floatBody (positive : Bool) (ds : List Char) (ex : Int) (rest : List Char)
    (hds : Digits ds) (hhead : ∃ c l, ds = c :: l ∧ 49 ≤ c.toNat ∧ c.toNat ≤ 57)
    (hdom : DomainCond ds ex) (hr : NumEnd rest) :
    parseInteger positive (floatBody ds ex ++ rest) =
      some (.f (if positive then ofRat (spelled ds ex) else (ofRat (spelled ds ex)).neg), rest) := by
  obtain ⟨c, l, rfl, h1, h2⟩ := hhead
  obtain ⟨_, hn15, hE1, hE2, hS⟩ := hdom
  have hl := hds.tail
  have hip : ∀ {l'}, Digits l' → IntPart (c :: l') := fun h => Or.inr ⟨c, _, rfl, h1, h2, h⟩
  unfold floatBody
  by_cases hex : -5 ≤ ex ∧ ex < 16
  · rw [if_pos hex]
    by_cases hex0 : 0 ≤ ex
    · rw [if_pos hex0]
      dsimp only
      by_cases hlen : (c :: l).length ≤ ex.toNat + 1
      · -- `ddd000.0`: the parser also accumulates the appended `0`
        have hS := hS ⟨hex0, hex.2, by omega⟩
        generalize hz : ex.toNat + 1 - (c :: l).length = z at *
        rw [show ex.toNat + 2 - (c :: l).length = z + 1 by omega] at hS
        have hlt : Nat.ofDigitChars 10 (c :: l) 0 * 10 ^ (z + 1) < 10 ^ 17 :=
          calc _ < 10 ^ (c :: l).length * 10 ^ (z + 1) :=
                Nat.mul_lt_mul_of_pos_right (ofDigitChars_lt_zero hds) (Nat.pow_pos (by decide))
            _ = 10 ^ ((c :: l).length + (z + 1)) := (Nat.pow_add ..).symm
            _ ≤ 10 ^ 17 := Nat.pow_le_pow_right (by decide) (by omega)
        rw [if_pos hlen]
        refine parseInteger_numText positive (ip := c :: (l ++ zeros z)) (fr := ['0']) (x := none) rest
          (hip (hl.append (Digits.zeros z))) (Digits.cons (by decide) Digits.nil) (Or.inl (by simp))
          (by simp) hr (j := z + 1) ?_ hS (by unfold U64_MAX; omega) (by simp)
          (by simp only [Option.getD_none, List.length_cons, List.length_nil] at hz hlen ⊢; omega)
        rw [← List.cons_append, Nat.ofDigitChars_append, Nat.ofDigitChars_append, zeros,
          Nat.ofDigitChars_replicate_zero, Nat.ofDigitChars_cons, Nat.ofDigitChars_nil, Nat.pow_succ,
          show '0'.toNat - '0'.toNat = 0 from rfl, Nat.add_zero, Nat.mul_comm 10, Nat.mul_comm (10 ^ z),
          Nat.mul_assoc]
      · -- `ddd.ddd`
        have hfrlen : ((c :: l).drop (ex.toNat + 1)).length = (c :: l).length - (ex.toNat + 1) :=
          List.length_drop
        have hfrne : (c :: l).drop (ex.toNat + 1) ≠ [] := List.ne_nil_of_length_pos (by omega)
        have hbody : (c :: l).take (ex.toNat + 1) ++ ['.'] ++ (c :: l).drop (ex.toNat + 1) =
            numText (c :: l.take ex.toNat) ((c :: l).drop (ex.toNat + 1)) none := by
          rw [numText, if_neg hfrne]; simp [expText]
        rw [if_neg hlen, hbody]
        exact parseInteger_numText_short positive rest (hip (hl.take _)) (hds.drop _) (Or.inl hfrne)
          (by omega) hr hds hn15
          (congrArg (Nat.ofDigitChars 10 · 0) (List.take_append_drop (ex.toNat + 1) (c :: l)))
          (by simp only [Option.getD_none]; omega) (by omega)
    · -- `0.000ddd`
      generalize hz : (-ex).toNat - 1 = z
      have hfrne : zeros z ++ c :: l ≠ [] := by simp
      have hbody : ['0', '.'] ++ zeros z ++ c :: l = numText ['0'] (zeros z ++ c :: l) none := by
        simp [numText, expText]
      have hl2 : ((zeros z ++ c :: l).length : Int) = z + (c :: l).length := by simp [zeros]
      rw [if_neg hex0, hbody]
      refine parseInteger_numText_short positive rest (Or.inl rfl) ((Digits.zeros z).append hds)
        (Or.inl hfrne) (by omega) hr hds hn15 ?_ (by simp only [Option.getD_none]; omega) (by omega)
      rw [Nat.ofDigitChars_append, Nat.ofDigitChars_append, zeros, Nat.ofDigitChars_replicate_zero]
      rfl
  · -- `d.ddde±xx`, or `de±xx` for a single digit
    have hbody : (match c :: l with
          | [d] => [d]
          | d :: rest => d :: '.' :: rest
          | [] => ['0']) ++ ['e'] ++ (if ex < 0 then ['-'] else ['+']) ++ natDigits ex.natAbs =
        numText [c] l (some ex) := by
      cases l <;> simp [numText, expText]
    simp only [List.length_cons] at hn15 hE1 hE2
    rw [if_neg hex]
    dsimp only
    rw [hbody]
    exact parseInteger_numText_short positive rest (hip Digits.nil) hl (Or.inr (by simp)) (by omega) hr hds
      (by simp only [List.length_cons]; omega) rfl
      (by simp only [Option.getD_some, List.length_cons]; omega) (by simp only [List.length_cons]; omega)

theorem parseValue_of_parseInteger_true {cs : List Char} {n : PNum} {r : List Char}
    (h : parseInteger true cs = some (n, r)) (fuel depth : Nat) :
    parseValue (fuel + 1) depth cs = some (numVal n, r) := by
  cases cs with
  | nil => simp [parseInteger] at h
  | cons c r' =>
    by_cases hd : JsonText.isDigit c = true
    · rw [parseValue_digit _ _ _ _ hd, h]; rfl
    · exfalso
      have hc0 : c ≠ '0' := by intro h0; subst h0; exact hd (by decide)
      rw [parseInteger] at h
      · have : ¬ (decide ('1' ≤ c) && decide (c ≤ '9')) = true := by
          rw [one_le_iff]; intro ⟨a, b⟩; exact hd ((isDigit_iff c).2 ⟨by omega, b⟩)
        simp [this] at h
      · exact hc0

theorem parseValue_of_parseInteger_false {cs : List Char} {n : PNum} {r : List Char}
    (h : parseInteger false cs = some (n, r)) (fuel depth : Nat) :
    parseValue (fuel + 1) depth ('-' :: cs) = some (numVal n, r) := by
  rw [parseValue, skipWs_minus]
  simp only [h, Option.map_some]

end FloatExact
end JmesVerif

#print axioms JmesVerif.FloatExact.parseInteger_floatBody
