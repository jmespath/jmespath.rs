import JmesVerif.Lemmas.InterpJson
/-!
Evaluating a disciplined tree on JSON data yields JSON data (no expression reference ever becomes
data), for any fuel.
-/
namespace JmesVerif

/-- the expref-typed parameter positions of a builtin -/
def Builtin.slot : Builtin → Nat → Bool
  | .map, i => i == 0
  | .sortBy, i => i == 1
  | .maxBy, i => i == 1
  | .minBy, i => i == 1
  | _, _ => false

/-- an argument list (positions `i, i+1, …`): every value is JSON, or an expression reference
satisfying `Q` in a position allowed by `s` -/
def ArgsQ (Q : Ast → Prop) (s : Nat → Bool) : Nat → List Val → Prop
  | _, [] => True
  | i, v :: vs => (v.isJson = true ∨ ∃ a, v = .expref a ∧ s i = true ∧ Q a) ∧ ArgsQ Q s (i + 1) vs

theorem ArgsQ.mono {Q Q' : Ast → Prop} {s s' : Nat → Bool} (hQ : ∀ a, Q a → Q' a)
    (hs : ∀ i, s i = true → s' i = true) : ∀ (vs : List Val) (i : Nat), ArgsQ Q s i vs → ArgsQ Q' s' i vs := by
  intro vs
  induction vs with
  | nil => intro i _; trivial
  | cons v vs ih =>
    intro i h
    refine ⟨?_, ih _ h.2⟩
    rcases h.1 with h1 | ⟨a, h1, h2, h3⟩
    · exact .inl h1
    · exact .inr ⟨a, h1, hs _ h2, hQ _ h3⟩

theorem ArgsQ.allJson {Q : Ast → Prop} {s : Nat → Bool} (hs : ∀ i, s i = false) :
    ∀ (vs : List Val) (i : Nat), ArgsQ Q s i vs → ∀ v ∈ vs, v.isJson = true := by
  intro vs
  induction vs with
  | nil => intro i _ v hv; simp at hv
  | cons w vs ih =>
    intro i h v hv
    simp only [List.mem_cons] at hv
    rcases hv with rfl | hv
    · rcases h.1 with h1 | ⟨a, _, h2, _⟩
      · exact h1
      · simp [hs] at h2
    · exact ih _ h.2 v hv

theorem slot_of_not_usesExpref (b : Builtin) (h : b.usesExpref = false) (i : Nat) : b.slot i = false := by
  cases b <;> simp [Builtin.usesExpref] at h <;> simp [Builtin.slot]

/-- every name is bound to a builtin whose expref-typed positions include those `Ast.Disciplined`
allows for that name -/
def RegOK (rt : Registry) : Prop :=
  ∀ name f, rt.get name = some f → ∃ b, f = .builtin b ∧ ∀ i, exprefOK name i = true → b.slot i = true

open Comp

/-- `Q` of the value returned, whatever the errors -/
abbrev Yields (Q : α → Prop) : Except EvalErr α → Prop := Post (fun _ => True) Q

theorem Yields.of_lift {Q : α → Prop} {x : Except EvalErr α} {off off' : Nat} {v : α} (h : Yields Q x)
    (hv : lift off x = .ok (v, off')) : Q v := by
  rw [(lift_ok_iff.1 hv).1] at h
  exact h

theorem Yields.intro {Q : α → Prop} {x : Except EvalErr α} (h : ∀ v, x = .ok v → Q v) : Yields Q x := by
  cases x with
  | error e => trivial
  | ok v => exact h v rfl

theorem Yields.outcome {Q : α → Prop} {r : ERes α} (h : ∀ v off, r = .ok (v, off) → Q v) :
    Yields Q (outcome r) := by
  rcases r with _ | ⟨v, off⟩
  · trivial
  · exact h v off rfl

/-- The induction hypothesis at fuel `n`, one field per function of the block.  `evArgs` is stated for
any `Q` on the bodies of the expression references among the arguments: `callFn` takes it at
`Disciplined`, `Lemmas/InterpTerm.lean` at `TermOn rt`. -/
structure JsonStep (rt : Registry) (n : Nat) : Prop where
  ev : ∀ d a, a.Disciplined = true → d.isJson = true → Yields (·.isJson = true) (ev rt n d a)
  evEach : ∀ xs a, a.Disciplined = true → (∀ x ∈ xs, x.isJson = true) →
    Yields (∀ y ∈ ·, y.isJson = true) (evEach rt n xs a)
  evAll : ∀ d es, Ast.discList es = true → d.isJson = true → Yields (∀ v ∈ ·, v.isJson = true) (evAll rt n d es)
  evArgs : ∀ (Q : Ast → Prop) name i d es, Ast.discArgs name i es = true →
    (∀ o a, Ast.expref o a ∈ es → a.Disciplined = true → Q a) → d.isJson = true →
    Yields (ArgsQ Q (exprefOK name) i) (Comp.evAll rt n d es)
  evKVs : ∀ d kvs acc, Ast.discKVs kvs = true → d.isJson = true → (∀ p ∈ acc, p.2.isJson = true) →
    Yields (∀ p ∈ ·, p.2.isJson = true) (evKVs rt n d kvs acc)
  evMap : ∀ xs a, a.Disciplined = true → (∀ x ∈ xs, x.isJson = true) →
    Yields (∀ y ∈ ·, y.isJson = true) (evMap rt n xs a)
  callFn : ∀ b vs off, ArgsQ (fun a => a.Disciplined = true) b.slot 0 vs →
    Yields (·.isJson = true) (outcome (callFn rt n (.builtin b) vs off))

theorem JsonStep.zero (rt : Registry) : JsonStep rt 0 := by
  constructor <;> intros <;>
    simp only [Comp.ev, Comp.evEach, Comp.evAll, Comp.evKVs, Comp.evMap, interp, projectEach, interpAll, interpKVs,
      mapExpref, JmesVerif.callFn] <;> exact True.intro

-- one arm of a function of the block unfolded in `h : … = .ok (v, off')`, `ha` the tree's `Disciplined`
-- hypothesis: follow the splits of `h`, drop the error arms, substitute the result
macro "jprep" h:ident ha:ident : tactic => `(tactic| (
  simp only at $h:ident
  try simp only [Ast.Disciplined, Bool.and_eq_true] at $ha:ident
  repeat' (split at $h:ident)
  all_goals (try (simp at $h:ident; done))
  all_goals (try (simp only [Except.ok.injEq, Prod.mk.injEq] at $h:ident; obtain ⟨h1, h2⟩ := $h:ident; subst h1; subst h2))
  all_goals (try (simp; done))))

section step
variable {rt : Registry} {n : Nat} (ih : JsonStep rt n)
include ih

theorem evEach_jstep (xs : List Val) (a : Ast) (ha : a.Disciplined = true) (hx : ∀ x ∈ xs, x.isJson = true) :
    Yields (∀ y ∈ ·, y.isJson = true) (evEach rt (n+1) xs a) := by
  rw [evEach_succ]
  cases xs with
  | nil => exact nofun
  | cons x rest =>
    rw [List.forall_mem_cons] at hx
    refine (ih.ev x a ha hx.1).bind fun v hv => (ih.evEach rest a ha hx.2).bind fun vs hvs => ?_
    show ∀ y ∈ (if v.isNull then vs else v :: vs), y.isJson = true
    split
    · exact hvs
    · exact List.forall_mem_cons.2 ⟨hv, hvs⟩

theorem evMap_jstep (xs : List Val) (a : Ast) (ha : a.Disciplined = true) (hx : ∀ x ∈ xs, x.isJson = true) :
    Yields (∀ y ∈ ·, y.isJson = true) (evMap rt (n+1) xs a) := by
  rw [evMap_succ]
  cases xs with
  | nil => exact nofun
  | cons x rest =>
    rw [List.forall_mem_cons] at hx
    exact (ih.ev x a ha hx.1).bind fun v hv => (ih.evMap rest a ha hx.2).bind fun vs hvs =>
      List.forall_mem_cons.2 ⟨hv, hvs⟩

theorem evAll_jstep (d : Val) (es : List Ast) (he : Ast.discList es = true) (hd : d.isJson = true) :
    Yields (∀ v ∈ ·, v.isJson = true) (evAll rt (n+1) d es) := by
  rw [evAll_succ]
  cases es with
  | nil => exact nofun
  | cons e rest =>
    simp only [Ast.discList, Bool.and_eq_true] at he
    exact (ih.ev d e he.1 hd).bind fun v hv => (ih.evAll d rest he.2 hd).bind fun vs hvs =>
      List.forall_mem_cons.2 ⟨hv, hvs⟩

theorem evKVs_jstep (d : Val) (kvs : List (String × Ast)) (acc : List (String × Val))
    (he : Ast.discKVs kvs = true) (hd : d.isJson = true) (hacc : ∀ p ∈ acc, p.2.isJson = true) :
    Yields (∀ p ∈ ·, p.2.isJson = true) (evKVs rt (n+1) d kvs acc) := by
  rw [evKVs_succ]
  rcases kvs with _ | ⟨⟨k, e⟩, rest⟩
  · exact hacc
  · simp only [Ast.discKVs, Bool.and_eq_true] at he
    exact (ih.ev d e he.1 hd).bind fun v hv =>
      ih.evKVs d rest _ he.2 hd (forall_mem_insertKV (R := fun v => Val.isJson v = true) hv hacc)

/-- a bare `&expr` argument evaluates to itself, in a position that takes one -/
theorem evArgs_jstep (Q : Ast → Prop) (name : String) (i : Nat) (d : Val) (es : List Ast)
    (he : Ast.discArgs name i es = true) (hQ : ∀ o a, Ast.expref o a ∈ es → a.Disciplined = true → Q a)
    (hd : d.isJson = true) : Yields (ArgsQ Q (exprefOK name) i) (evAll rt (n+1) d es) := by
  rw [evAll_succ]
  cases es with
  | nil => trivial
  | cons e rest =>
    have hQ' : ∀ o a, Ast.expref o a ∈ rest → a.Disciplined = true → Q a :=
      fun o a hm => hQ o a (List.mem_cons_of_mem _ hm)
    by_cases hex : ∃ o body, e = .expref o body
    · obtain ⟨o, body, rfl⟩ := hex
      rw [Ast.discArgs] at he
      simp only [Bool.and_eq_true] at he
      have h1 : Yields (· = .expref body) (ev rt n d (.expref o body)) := by
        cases n with
        | zero => simp only [Comp.ev, interp]; trivial
        | succ m => rw [ev_succ]; exact rfl
      exact h1.bind fun v hv => (ih.evArgs Q name (i+1) d rest he.2 hQ' hd).bind fun vs hvs =>
        show ArgsQ Q (exprefOK name) i (v :: vs) from
          ⟨.inr ⟨body, hv, he.1.1, hQ o body List.mem_cons_self he.1.2⟩, hvs⟩
    · rw [Ast.discArgs] at he
      · simp only [Bool.and_eq_true] at he
        exact (ih.ev d e he.1 hd).bind fun v hv => (ih.evArgs Q name (i+1) d rest he.2 hQ' hd).bind fun vs hvs =>
          show ArgsQ Q (exprefOK name) i (v :: vs) from ⟨.inl hv, hvs⟩
      · exact fun o body hb => hex ⟨o, body, hb⟩

theorem callFn_jstep (b : Builtin) (vs : List Val) (off : Nat)
    (hq : ArgsQ (fun a => a.Disciplined = true) b.slot 0 vs) :
    Yields (·.isJson = true) (outcome (callFn rt (n+1) (.builtin b) vs off)) := by
  rcases callFn_shape b vs off with ⟨e, _, he⟩ | ⟨hb, _, hp⟩ | ⟨rfl, a, xs, rfl⟩ | ⟨hb, a, xs, rfl⟩
  · rw [he]; trivial
  · rw [hp, outcome_lift]
    exact .intro fun v hv => pure_json b vs v (ArgsQ.allJson (slot_of_not_usesExpref b hb) _ _ hq) hv
  · simp [ArgsQ, Builtin.slot] at hq
    rw [callFn_map_eq, outcome_lift]
    exact (ih.evMap xs a hq.1 hq.2).bind fun ys hys => arr_json.2 hys
  · have hx : ∀ x ∈ xs, x.isJson = true := by
      rcases hb with rfl | rfl | rfl <;> simp [ArgsQ, Builtin.slot] at hq <;> exact hq.1
    rcases hb with rfl | rfl | rfl
    · rw [callFn_sortBy_eq, outcome_lift]
      cases xs with
      | nil => exact isJson_closed.arr _ |>.2 nofun
      | cons x rest =>
        refine .intro fun v hv => ?_
        obtain ⟨k0, ks, -, -, -, rfl⟩ := keyLoop_ok hv
        exact arr_json.2 fun y hy => hx y (sortBy_mem _ _ y hy)
    · rw [callFn_maxBy]
      exact .outcome fun v off' h => byExtreme_json rt n true xs a off v off' hx h
    · rw [callFn_minBy]
      exact .outcome fun v off' h => byExtreme_json rt n false xs a off v off' hx h

theorem ev_jstep (hrt : RegOK rt) (d : Val) (a : Ast) (ha : a.Disciplined = true) (hd : d.isJson = true) :
    Yields (·.isJson = true) (ev rt (n+1) d a) := by
  rw [ev_succ]
  cases a with
  | field o name => exact isJson_closed.getField _ _ hd
  | identity o => exact hd
  | literal o w => exact ha
  | expref o a => simp [Ast.Disciplined] at ha
  | index o i =>
    cases d with
    | arr xs => exact isJson_closed.index _ _ (arr_json.1 hd)
    | _ => exact isJson_null
  | slice o st sp step =>
    simp only [evStep]
    split
    · trivial
    · cases d with
      | arr xs =>
        dsimp only
        cases hs : sliceList xs st sp step with
        | ok ys => exact arr_json.2 fun y hy => arr_json.1 hd y (sliceList_mem _ _ _ _ _ hs y hy)
        | error _ => trivial
      | _ => exact isJson_null
  | subexpr o l r =>
    simp only [Ast.Disciplined, Bool.and_eq_true] at ha
    exact (ih.ev d l ha.1 hd).bind fun v hv => ih.ev v r ha.2 hv
  | or o l r | and o l r =>
    simp only [Ast.Disciplined, Bool.and_eq_true] at ha
    refine (ih.ev d l ha.1 hd).bind fun v hv => ?_
    split
    · exact hv
    · exact ih.ev d r ha.2 hd
  | not o a => exact (ih.ev d a ha hd).bind fun _ _ => isJson_bool _
  | condition o p t =>
    simp only [Ast.Disciplined, Bool.and_eq_true] at ha
    refine (ih.ev d p ha.1 hd).bind fun c _ => ?_
    split
    · exact ih.ev d t ha.2 hd
    · exact isJson_null
  | comparison o c l r =>
    simp only [Ast.Disciplined, Bool.and_eq_true] at ha
    refine (ih.ev d l ha.1 hd).bind fun lv _ => (ih.ev d r ha.2 hd).bind fun rv _ => ?_
    show (match Val.compare c lv rv with | some b => Val.bool b | none => .null).isJson = true
    split
    · exact isJson_bool _
    · exact isJson_null
  | objectValues o a =>
    refine (ih.ev d a ha hd).bind fun v hv => ?_
    cases v with
    | obj kvs =>
      refine arr_json.2 fun y hy => ?_
      obtain ⟨p, hp, rfl⟩ := List.mem_map.1 hy
      exact obj_json.1 hv p hp
    | _ => exact isJson_null
  | projection o l r =>
    simp only [Ast.Disciplined, Bool.and_eq_true] at ha
    refine (ih.ev d l ha.1 hd).bind fun v hv => ?_
    cases v with
    | arr xs => exact (ih.evEach xs r ha.2 (arr_json.1 hv)).bind fun ys hys => arr_json.2 hys
    | _ => exact isJson_null
  | flatten o a =>
    refine (ih.ev d a ha hd).bind fun v hv => ?_
    cases v with
    | arr xs => exact arr_json.2 (isJson_closed.flatten xs (arr_json.1 hv))
    | _ => exact isJson_null
  | multiList o es =>
    simp only [evStep]
    split
    · exact isJson_null
    · exact (ih.evAll d es ha hd).bind fun vs hvs => arr_json.2 hvs
  | multiHash o kvs =>
    simp only [evStep]
    split
    · exact isJson_null
    · exact (ih.evKVs d kvs [] ha hd nofun).bind fun m hm => obj_json.2 hm
  | function o name args =>
    refine (ih.evArgs (fun a => a.Disciplined = true) name 0 d args ha (fun _ _ _ h => h) hd).bind fun vs hvs => ?_
    cases hf : rt.get name with
    | none => trivial
    | some f =>
      obtain ⟨b, rfl, hs⟩ := hrt _ _ hf
      exact ih.callFn b vs o (ArgsQ.mono (fun _ h => h) hs _ _ hvs)

end step

theorem jsonStep_all (rt : Registry) (hrt : RegOK rt) : ∀ n, JsonStep rt n
  | 0 => JsonStep.zero rt
  | n + 1 =>
    have ih := jsonStep_all rt hrt n
    ⟨ev_jstep ih hrt, evEach_jstep ih, evAll_jstep ih, evArgs_jstep ih, evKVs_jstep ih, evMap_jstep ih,
     callFn_jstep ih⟩

theorem interp_json (rt : Registry) (hrt : RegOK rt) (fuel : Nat) (d : Val) (a : Ast) (off : Nat)
    (v : Val) (off' : Nat) (ha : a.Disciplined = true) (hd : d.isJson = true)
    (h : interp rt fuel d a off = .ok (v, off')) : v.isJson = true :=
  ((jsonStep_all rt hrt fuel).ev d a ha hd).of_lift ((keep_all rt fuel).interp d a off ▸ h)

theorem get_map_builtin (l : List (String × Builtin)) (name : String) (f : Fn)
    (h : Registry.get (l.map fun (n, b) => (n, Fn.builtin b)) name = some f) :
    ∃ b, f = .builtin b ∧ (name, b) ∈ l := by
  induction l with
  | nil => simp [Registry.get] at h
  | cons p l ih =>
    obtain ⟨n, b⟩ := p
    simp only [List.map, Registry.get] at h
    split at h
    · simp at h; subst h; rename_i hn; subst hn; exact ⟨b, rfl, by simp⟩
    · obtain ⟨b', h1, h2⟩ := ih h
      exact ⟨b', h1, by simp [h2]⟩

theorem all_slots : ∀ p ∈ Builtin.all, ∀ i, exprefOK p.1 i = true → p.2.slot i = true := by
  simp [Builtin.all, exprefOK, Builtin.slot]

theorem regOK_default : RegOK Registry.default := by
  intro name f h
  obtain ⟨b, rfl, hb⟩ := get_map_builtin _ _ _ h
  exact ⟨b, rfl, all_slots _ hb⟩

end JmesVerif
