import JmesVerif.Model.Interp
import JmesVerif.Lemmas.InterpMono
import JmesVerif.Lemmas.InterpOmega
import JmesVerif.Lemmas.InterpOmegaParse
import JmesVerif.Lemmas.InterpTerm
/-!
A disciplined tree (`Ast.Disciplined`) on JSON data reaches a limit value that more fuel does not change
(`interp_converges`).  The fuel needed is not bounded by a function of the size of the tree alone
(`no_fuel_bound_in_size`): the loops over the elements of an array (`projectEach`, `mapExpref`,
`keysTyped`) consume one unit of fuel per element.
-/
namespace JmesVerif

/-- Termination for any registry in which every name is bound to a builtin whose expref-typed
parameters cover the positions `Ast.Disciplined` allows (`RegOK`), with the limit value. -/
theorem interp_converges (rt : Registry) (hrt : RegOK rt) (a : Ast) (ha : a.Disciplined = true)
    (d : Val) (hd : d.isJson = true) (off : Nat) :
    ∃ n r, r ≠ .error .fuel ∧ (∀ v off', r = .ok (v, off') → v.isJson = true) ∧
      ∀ fuel, n ≤ fuel → interp rt fuel d a off = r := by
  obtain ⟨n, hn⟩ := term_ast rt hrt a.size a (Nat.le_refl _) ha d hd off
  refine ⟨n, interp rt n d a off, hn, ?_, ?_⟩
  · intro v off' h
    exact interp_json rt hrt n d a off v off' ha hd h
  · intro fuel hf
    exact interp_mono rt n d a off _ rfl hn fuel hf

/-- a disciplined tree on JSON data does not run out of fuel, given enough of it.
(No bound on `n` in terms of `a.size` alone exists, see `no_fuel_bound_in_size`.) -/
theorem interp_terminates (a : Ast) (ha : a.Disciplined = true) (d : Val) (hd : d.isJson = true) (off : Nat) :
    ∃ n, ∀ fuel, n ≤ fuel → interp Registry.default fuel d a off ≠ .error .fuel := by
  obtain ⟨n, r, hr, _, h⟩ := interp_converges Registry.default regOK_default a ha d hd off
  exact ⟨n, fun fuel hf => by rw [h fuel hf]; exact hr⟩

theorem interp_terminates_json (a : Ast) (ha : a.Disciplined = true) (d : Val) (hd : d.isJson = true)
    (off fuel : Nat) (v : Val) (off' : Nat) (h : interp Registry.default fuel d a off = .ok (v, off')) :
    v.isJson = true :=
  interp_json Registry.default regOK_default fuel d a off v off' ha hd h

theorem projectEach_short (rt : Registry) : ∀ (n : Nat) (xs : List Val) (off : Nat), n ≤ xs.length →
    projectEach rt n xs (.identity 0) off = .error .fuel := by
  intro n
  induction n with
  | zero => intro xs off _; simp [projectEach]
  | succ n ih =>
    intro xs off h
    cases xs with
    | nil => simp at h
    | cons x rest =>
      simp only [List.length_cons, Nat.add_le_add_iff_right] at h
      simp only [projectEach]
      cases n with
      | zero => simp [interp]
      | succ m =>
        simp only [interp]
        have hr : m + 1 ≤ rest.length := h
        rw [ih rest off hr]

/-- the fuel `[*]` (`Projection(Identity, Identity)`, 3 nodes, disciplined) needs grows with the
data: no bound in terms of the tree alone is sufficient for all JSON data -/
theorem no_fuel_bound_in_size : ∃ a : Ast, a.Disciplined = true ∧ ∀ N : Nat, ∃ d : Val, d.isJson = true ∧
    interp Registry.default N d a 0 = .error .fuel := by
  refine ⟨.projection 0 (.identity 0) (.identity 0), by simp [Ast.Disciplined], ?_⟩
  intro N
  refine ⟨.arr (List.replicate N .null), by simp, ?_⟩
  cases N with
  | zero => simp [interp]
  | succ n =>
    simp only [interp]
    cases n with
    | zero => simp [interp]
    | succ m =>
      simp only [interp]
      rw [projectEach_short _ _ _ _ (by simp)]

/-- sanity: disciplined trees in the sense intended, and Ω is not one -/
example : (Ast.function 0 "sort_by" [.field 1 "a", .expref 2 (.field 3 "k")]).Disciplined = true := by
  simp [Ast.Disciplined, Ast.discArgs, exprefOK]
example : (Ast.function 0 "map" [.expref 2 (.function 3 "max_by" [.identity 4, .expref 5 (.field 6 "k")]),
    .field 1 "a"]).Disciplined = true := by
  simp [Ast.Disciplined, Ast.discArgs, exprefOK]
example : (Ast.function 0 "to_array" [.expref 2 (.field 3 "k")]).Disciplined = false := by
  simp [Ast.Disciplined, Ast.discArgs, exprefOK]
example : omega.Disciplined = false := by
  simp [omega, omegaBody, Ast.Disciplined, Ast.discArgs, exprefOK]

end JmesVerif

#print axioms JmesVerif.interp_mono
#print axioms JmesVerif.interp_terminates
#print axioms JmesVerif.omega_diverges
#print axioms JmesVerif.interp_converges
#print axioms JmesVerif.no_fuel_bound_in_size
#print axioms JmesVerif.omegaSrc_diverges
