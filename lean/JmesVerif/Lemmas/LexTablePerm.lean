import JmesVerif.Lemmas.LexTable
/-!
The dispatch table read as a set of (range, action) entries.

The arms of `match ch { … }` in `Lexer::tokenize` have pairwise disjoint patterns, so neither the order of the arms nor the
way character alternatives are grouped into `|` patterns matters for what the `match` does.
-/
namespace JmesVerif

/-- one character range (inclusive) with the action of the arm it belongs to -/
abbrev FlatArm := (Char × Char) × LexAct

def FlatArm.covers (e : FlatArm) (c : Char) : Bool := e.1.1 ≤ c && c ≤ e.1.2

/-- one entry per range, in table order -/
def flatArms (t : List LexArm) : List FlatArm := t.flatMap fun a => a.1.map fun r => (r, a.2)

/-- first matching entry, `invalid` when none matches -/
def actOfFlat (l : List FlatArm) (c : Char) : LexAct :=
  match l.find? (·.covers c) with
  | some e => e.2
  | none => .invalid

/-- two inclusive ranges have no character in common (sufficient check: one ends before the other starts) -/
def rangeDisj (r₁ r₂ : Char × Char) : Bool := r₁.2 < r₂.1 || r₂.2 < r₁.1

/-- the ranges of the entries are pairwise disjoint -/
def rangesDisjoint : List FlatArm → Bool
  | [] => true
  | e :: l => l.all (fun e' => rangeDisj e.1 e'.1) && rangesDisjoint l

theorem flatArms_nil : flatArms [] = [] := rfl

theorem flatArms_cons (a : LexArm) (t : List LexArm) :
    flatArms (a :: t) = a.1.map (fun r => (r, a.2)) ++ flatArms t := by
  simp [flatArms]

theorem actOfFlat_nil (c : Char) : actOfFlat [] c = .invalid := rfl

theorem actOfFlat_cons (e : FlatArm) (l : List FlatArm) (c : Char) :
    actOfFlat (e :: l) c = if e.covers c = true then e.2 else actOfFlat l c := by
  unfold actOfFlat
  rw [List.find?_cons]
  cases e.covers c <;> simp

theorem actOfFlat_map_append (rs : List (Char × Char)) (act : LexAct) (rest : List FlatArm) (c : Char) :
    actOfFlat (rs.map (fun r => (r, act)) ++ rest) c =
      if LexArm.covers (rs, act) c = true then act else actOfFlat rest c := by
  induction rs with
  | nil => simp [LexArm.covers]
  | cons r rs ih =>
    rw [List.map_cons, List.cons_append, actOfFlat_cons, ih]
    have hc : LexArm.covers (r :: rs, act) c = (FlatArm.covers (r, act) c || LexArm.covers (rs, act) c) := rfl
    rw [hc]
    cases FlatArm.covers (r, act) c <;> cases LexArm.covers (rs, act) c <;> rfl

/-- looking up the arms is looking up their ranges one by one: the grouping of ranges into arms does not matter -/
theorem actOf_eq_flat (arms : List LexArm) (c : Char) : actOf arms c = actOfFlat (flatArms arms) c := by
  induction arms with
  | nil => rfl
  | cons a t ih =>
    obtain ⟨rs, act⟩ := a
    rw [actOf_cons, flatArms_cons, actOfFlat_map_append, ih]

theorem rangeDisj_symm (r₁ r₂ : Char × Char) : rangeDisj r₁ r₂ = rangeDisj r₂ r₁ := by
  simp [rangeDisj, Bool.or_comm]

theorem not_covers_of_rangeDisj {e₁ e₂ : FlatArm} {c : Char} (hd : rangeDisj e₁.1 e₂.1 = true)
    (h₁ : e₁.covers c = true) (h₂ : e₂.covers c = true) : False := by
  simp only [FlatArm.covers, Bool.and_eq_true, decide_eq_true_eq] at h₁ h₂
  simp only [rangeDisj, Bool.or_eq_true, decide_eq_true_eq] at hd
  obtain ⟨a₁, b₁⟩ := h₁
  obtain ⟨a₂, b₂⟩ := h₂
  rcases hd with hd | hd
  · exact Char.not_le.mpr hd (Char.le_trans a₂ b₁)
  · exact Char.not_le.mpr hd (Char.le_trans a₁ b₂)

theorem rangesDisjoint_iff (l : List FlatArm) :
    rangesDisjoint l = true ↔ l.Pairwise (fun e e' => rangeDisj e.1 e'.1 = true) := by
  induction l with
  | nil => simp [rangesDisjoint]
  | cons e l ih => simp [rangesDisjoint, List.pairwise_cons, ih]

theorem covers_unique {l : List FlatArm} (hl : rangesDisjoint l = true) {e e' : FlatArm} {c : Char}
    (he : e ∈ l) (he' : e' ∈ l) (hc : e.covers c = true) (hc' : e'.covers c = true) : e = e' := by
  induction l with
  | nil => cases he
  | cons x l ih =>
    simp only [rangesDisjoint, Bool.and_eq_true, List.all_eq_true] at hl
    obtain ⟨hx, hl⟩ := hl
    rcases List.mem_cons.mp he with h₁ | h₁
    · rcases List.mem_cons.mp he' with h₂ | h₂
      · rw [h₁, h₂]
      · subst h₁; exact (not_covers_of_rangeDisj (hx _ h₂) hc hc').elim
    · rcases List.mem_cons.mp he' with h₂ | h₂
      · subst h₂; exact (not_covers_of_rangeDisj (hx _ h₁) hc' hc).elim
      · exact ih hl h₁ h₂

theorem actOfFlat_cases (l : List FlatArm) (c : Char) :
    (∃ e ∈ l, e.covers c = true ∧ actOfFlat l c = e.2) ∨
    ((∀ e ∈ l, e.covers c = false) ∧ actOfFlat l c = .invalid) := by
  unfold actOfFlat
  cases h : l.find? (·.covers c) with
  | some e => exact .inl ⟨e, List.mem_of_find?_eq_some h, by simpa using List.find?_some h, rfl⟩
  | none =>
    refine .inr ⟨fun e he => ?_, rfl⟩
    have := List.find?_eq_none.mp h e he
    simpa using this

/-- for pairwise disjoint ranges at most one entry covers a character, so first-match does not depend on the order -/
theorem actOfFlat_perm {l₁ l₂ : List FlatArm} (hd : rangesDisjoint l₁ = true) (hp : l₁.Perm l₂) (c : Char) :
    actOfFlat l₁ c = actOfFlat l₂ c := by
  rcases actOfFlat_cases l₁ c with ⟨e₁, m₁, c₁, h₁⟩ | ⟨n₁, h₁⟩ <;>
    rcases actOfFlat_cases l₂ c with ⟨e₂, m₂, c₂, h₂⟩ | ⟨n₂, h₂⟩
  · rw [h₁, h₂, covers_unique hd m₁ (hp.mem_iff.mpr m₂) c₁ c₂]
  · have := n₂ e₁ (hp.mem_iff.mp m₁)
    rw [c₁] at this; cases this
  · have := n₁ e₂ (hp.mem_iff.mpr m₂)
    rw [c₂] at this; cases this
  · rw [h₁, h₂]

/-- **Order and grouping of the arms do not matter.** Two tables whose (range, action) entries are the same up to order —
the first one's ranges being pairwise disjoint — dispatch every character to the same action. -/
theorem actOf_perm_of_flat {t₁ t₂ : List LexArm} (hd : rangesDisjoint (flatArms t₁) = true)
    (hp : (flatArms t₁).Perm (flatArms t₂)) (c : Char) : actOf t₁ c = actOf t₂ c := by
  rw [actOf_eq_flat, actOf_eq_flat]; exact actOfFlat_perm hd hp c

theorem actOf_of_covers {t : List LexArm} (hd : rangesDisjoint (flatArms t) = true) {a : LexArm} (ha : a ∈ t)
    {c : Char} (hc : a.covers c = true) : actOf t c = a.2 := by
  obtain ⟨r, hr, (hrc : FlatArm.covers (r, a.2) c = true)⟩ := List.any_eq_true.1 hc
  have hm : (r, a.2) ∈ flatArms t := List.mem_flatMap.2 ⟨a, ha, List.mem_map.2 ⟨r, hr, rfl⟩⟩
  rw [actOf_eq_flat]
  rcases actOfFlat_cases (flatArms t) c with ⟨e, he, hec, h⟩ | ⟨hn, _⟩
  · rw [h, covers_unique hd he hm hec hrc]
  · rw [hn _ hm] at hrc; cases hrc

theorem lexArmsDoc_disjoint : rangesDisjoint (flatArms lexArmsDoc) = true := by decide

theorem rangesDisjoint_perm {l₁ l₂ : List FlatArm} (hp : l₁.Perm l₂) : rangesDisjoint l₁ = rangesDisjoint l₂ := by
  rw [Bool.eq_iff_iff, rangesDisjoint_iff, rangesDisjoint_iff]
  exact hp.pairwise_iff (fun {a b} h => by rw [rangeDisj_symm]; exact h)

/-! ## `consume_lbracket`: the alternatives after `[` -/

/-- first alternative for the next character -/
def altOf (alts : List (Char × String)) (c : Char) : Option String := (alts.find? (·.1 == c)).map (·.2)

/-- the alternatives' characters are pairwise different -/
def altsDistinct (alts : List (Char × String)) : Bool := (alts.map (·.1)).Nodup

theorem altOf_perm_aux {l₁ l₂ : List (Char × String)} (hp : l₁.Perm l₂) (c : Char)
    (hd : (l₁.map (·.1)).Nodup) : altOf l₁ c = altOf l₂ c := by
  induction hp with
  | nil => rfl
  | cons x _ ih =>
    rw [List.map_cons, List.nodup_cons] at hd
    simp only [altOf, List.find?_cons] at ih ⊢
    cases x.1 == c <;> simp [ih hd.2]
  | swap x y l =>
    simp only [List.map_cons, List.nodup_cons, List.mem_cons, not_or] at hd
    have hne : y.1 ≠ x.1 := hd.1.1
    simp only [altOf, List.find?_cons]
    cases hx : x.1 == c <;> cases hy : y.1 == c <;> simp
    exact (hne ((beq_iff_eq.mp hy).trans (beq_iff_eq.mp hx).symm)).elim
  | trans p₁ _ ih₁ ih₂ =>
    exact (ih₁ hd).trans (ih₂ ((p₁.map _).nodup_iff.mp hd))

theorem altOf_perm {l₁ l₂ : List (Char × String)} (hd : altsDistinct l₁ = true) (hp : l₁.Perm l₂) (c : Char) :
    altOf l₁ c = altOf l₂ c :=
  altOf_perm_aux hp c (by simpa [altsDistinct] using hd)

end JmesVerif

#print axioms JmesVerif.actOf_eq_flat
#print axioms JmesVerif.actOfFlat_perm
#print axioms JmesVerif.actOf_perm_of_flat
#print axioms JmesVerif.rangesDisjoint_perm
#print axioms JmesVerif.altOf_perm
