import JmesVerif.Spec.Spelling
import JmesVerif.Lemmas.Lexer
import JmesVerif.Lemmas.JsonRoundTripAux
namespace JmesVerif
open Spelling

namespace Spell

theorem hexDigit_facts : ∀ n : Fin 16,
    JsonPrint.hexDigit n.val ≠ '"' ∧ JsonPrint.hexDigit n.val ≠ '\\' ∧ JsonPrint.hexDigit n.val ≠ '`' := by
  decide

theorem hexDigit_ne_quote {n : Nat} (h : n < 16) : JsonPrint.hexDigit n ≠ '"' :=
  (hexDigit_facts ⟨n, h⟩).1
theorem hexDigit_ne_bs {n : Nat} (h : n < 16) : JsonPrint.hexDigit n ≠ '\\' :=
  (hexDigit_facts ⟨n, h⟩).2.1
theorem hexDigit_ne_bt {n : Nat} (h : n < 16) : JsonPrint.hexDigit n ≠ '`' :=
  (hexDigit_facts ⟨n, h⟩).2.2

theorem ci_close (q : Char) (cs acc : List Char) :
    Lexer.consumeInside q (q :: cs) acc = some (acc.reverse, cs) := by
  rw [Lexer.consumeInside.eq_def]; simp
theorem ci_pair (q : Char) (hq : q ≠ '\\') (c2 : Char) (cs acc : List Char) :
    Lexer.consumeInside q ('\\' :: c2 :: cs) acc = Lexer.consumeInside q cs (c2 :: '\\' :: acc) := by
  rw [Lexer.consumeInside.eq_def]; simp [Ne.symm hq]
theorem ci_plain (q c : Char) (h1 : c ≠ q) (h2 : c ≠ '\\') (cs acc : List Char) :
    Lexer.consumeInside q (c :: cs) acc = Lexer.consumeInside q cs (c :: acc) := by
  rw [Lexer.consumeInside.eq_def]; simp [h1, h2]

theorem consumeInside_escapeChar (c : Char) (tail acc : List Char) :
    Lexer.consumeInside '"' (JsonPrint.escapeChar c ++ tail) acc
      = Lexer.consumeInside '"' tail ((JsonPrint.escapeChar c).reverse ++ acc) := by
  have hq : '"' ≠ '\\' := by decide
  have h := JsonRT.escapeShape c
  generalize JsonPrint.escapeChar c = l at h
  cases h with
  | plain h1 h2 _ => exact ci_plain _ _ h1 h2 _ _
  | short e _ _ => exact ci_pair _ hq _ _ _
  | hex h =>
    have h16 : c.toNat / 16 < 16 := by omega
    have hm := Nat.mod_lt c.toNat (by decide : 16 > 0)
    simp only [List.cons_append, List.nil_append, ci_pair _ hq]
    rw [ci_plain _ '0' (by decide) (by decide), ci_plain _ '0' (by decide) (by decide),
      ci_plain _ _ (hexDigit_ne_quote h16) (hexDigit_ne_bs h16),
      ci_plain _ _ (hexDigit_ne_quote hm) (hexDigit_ne_bs hm)]
    rfl

theorem consumeInside_quoted (k rest : List Char) : ∀ acc : List Char,
    Lexer.consumeInside '"' (k.flatMap JsonPrint.escapeChar ++ '"' :: rest) acc
      = some (acc.reverse ++ k.flatMap JsonPrint.escapeChar, rest) := by
  induction k with
  | nil => intro acc; simp [ci_close]
  | cons c k ih =>
    intro acc
    simp only [List.flatMap_cons, List.append_assoc]
    rw [consumeInside_escapeChar, ih]
    simp

theorem char_ofNat_toNat (c : Char) : Char.ofNat c.toNat = c := by
  simp [Char.ofNat_toNat]

theorem parse_quoted (k : List Char) :
    JsonText.parse ('"' :: (k.flatMap JsonPrint.escapeChar ++ ['"'])) = some (.str (String.ofList k)) := by
  rw [JsonText.parse, JsonRT.parseValue_str _ _ _ [] (String.ofList k) (by rw [String.toList_ofList]; rfl)]
  rfl

end Spell
open Spell

theorem Spell.lexOne_dq (pos : Nat) (cs buf r : List Char) (s : String)
    (h1 : Lexer.consumeInside '"' cs [] = some (buf, r))
    (h2 : JsonText.parse ('"' :: (buf ++ ['"'])) = some (.str s)) :
    Lexer.lexOne pos '"' cs = .ok (some (.quotedIdentifier s), r) := by
  unfold Lexer.lexOne
  simp [Lexer.isIdStart, h1, h2]

theorem Spell.lexOne_sq (pos : Nat) (cs buf r : List Char)
    (h1 : Lexer.consumeInside '\'' cs [] = some (buf, r)) :
    Lexer.lexOne pos '\'' cs
      = .ok (some (.literal (.str (String.ofList (Lexer.unescape '\'' buf)))), r) := by
  unfold Lexer.lexOne
  simp [Lexer.isIdStart, h1]

theorem Spell.lexOne_sq_none (pos : Nat) (cs : List Char)
    (h1 : Lexer.consumeInside '\'' cs [] = none) :
    Lexer.lexOne pos '\'' cs = .error ⟨pos, .unclosed⟩ := by
  unfold Lexer.lexOne
  simp [Lexer.isIdStart, h1]

theorem Spell.lexOne_bt (pos : Nat) (cs buf r : List Char) (v : Val)
    (h1 : Lexer.consumeInside '`' cs [] = some (buf, r))
    (h2 : JsonText.parse (Lexer.unescape '`' buf) = some v) :
    Lexer.lexOne pos '`' cs = .ok (some (.literal v), r) := by
  unfold Lexer.lexOne
  simp [Lexer.isIdStart, h1, h2]

/-- a single token spanning the whole input -/
theorem Spell.tokenize_single (c : Char) (cs : List Char) (t : Tok)
    (h : Lexer.lexOne 0 c cs = .ok (some t, [])) :
    tokenize (c :: cs) = .ok [(0, t), (Lexer.utf8Len (c :: cs), .eof)] := by
  unfold tokenize
  simp only [List.length_cons]
  rw [Lexer.loop]
  simp only [Nat.sub_self, h]
  rw [Lexer.loop]
  simp

theorem quoted_roundtrip (k : List Char) (rest : List Char) (pos : Nat) :
    Lexer.lexOne pos '"' ((k.flatMap JsonPrint.escapeChar) ++ '"' :: rest)
      = .ok (some (.quotedIdentifier (String.ofList k)), rest) := by
  apply lexOne_dq _ _ _ _ _ (consumeInside_quoted k rest [])
  simpa using parse_quoted k

theorem quotedSpell_eq (k : String) : quotedSpell k = '"' :: (k.toList.flatMap JsonPrint.escapeChar ++ ['"']) := by
  simp [quotedSpell, JsonPrint.quote]

/-! ### raw strings and the backtick layer, generic in the quote character -/
namespace Spell

/-- each `q` becomes `\q` (generic form of `rawBody` / `escBacktick`) -/
def escQ (q : Char) : List Char → List Char
  | [] => []
  | c :: cs => if c = q then '\\' :: q :: escQ q cs else c :: escQ q cs

theorem escQ_self (q : Char) (cs : List Char) : escQ q (q :: cs) = '\\' :: q :: escQ q cs := by
  rw [escQ, if_pos rfl]
theorem escQ_ne {q c : Char} (h : c ≠ q) (cs : List Char) : escQ q (c :: cs) = c :: escQ q cs := by
  rw [escQ, if_neg h]

/-- generic form of `rawSpellable.go`: `odd` is the parity of the run of backslashes just read; a `q` or the end
after an odd run is what the spelling cannot express -/
def goQ (q : Char) (odd : Bool) : List Char → Bool
  | [] => !odd
  | c :: cs =>
    if c = '\\' then goQ q (!odd) cs
    else if c = q then (!odd) && goQ q false cs
    else goQ q false cs

theorem rawBody_eq (s : List Char) : rawBody s = escQ '\'' s := by
  induction s with
  | nil => rfl
  | cons c cs ih => simp [rawBody, escQ, ih]

theorem escBacktick_eq (s : List Char) : escBacktick s = escQ '`' s := by
  induction s with
  | nil => rfl
  | cons c cs ih => simp [escBacktick, escQ, ih]

theorem rawSpellable_go_eq (s : List Char) : ∀ odd, rawSpellable.go odd s = goQ '\'' odd s := by
  induction s with
  | nil => intro odd; rfl
  | cons c cs ih => intro odd; simp [rawSpellable.go, goQ, ih]

/-- the pending backslash of an odd run -/
def pre : Bool → List Char
  | true => ['\\']
  | false => []

/-- The induction runs over `s` with the scan in the middle of a backslash run: `pre odd` puts back the backslash
that `odd` records, so that the lexer, which eats a backslash together with the next character, is always at a
pair boundary. -/
theorem consumeInside_escQ (q : Char) (hq : q ≠ '\\') (rest : List Char) (s : List Char) :
    ∀ (odd : Bool) (acc : List Char), goQ q odd s = true →
      Lexer.consumeInside q (pre odd ++ escQ q s ++ q :: rest) acc
        = some (acc.reverse ++ pre odd ++ escQ q s, rest) := by
  induction s with
  | nil =>
    intro odd acc h
    cases odd
    · simp [pre, escQ, ci_close]
    · simp [goQ] at h
  | cons c cs ih =>
    intro odd acc h
    by_cases h1 : c = '\\'
    · subst h1
      simp only [goQ, if_true] at h
      rw [escQ_ne (Ne.symm hq)]
      cases odd
      · simpa [pre] using ih true acc h
      · simpa [pre, ci_pair q hq] using ih false ('\\' :: '\\' :: acc) h
    · by_cases h2 : c = q
      · subst h2
        simp only [goQ, if_neg h1, if_true, Bool.and_eq_true, Bool.not_eq_true'] at h
        obtain ⟨rfl, h⟩ := h
        rw [escQ_self]
        simpa [pre, ci_pair c hq] using ih false (c :: '\\' :: acc) h
      · simp only [goQ, if_neg h1, if_neg h2] at h
        rw [escQ_ne h2]
        cases odd
        · simpa [pre, ci_plain q c h2 h1] using ih false (c :: acc) h
        · simpa [pre, ci_pair q hq] using ih false (c :: '\\' :: acc) h

theorem escQ_head_ne {q : Char} (hq : q ≠ '\\') : ∀ s tl, escQ q s ≠ q :: tl
  | [], _ => by simp [escQ]
  | c :: cs, tl => by
    by_cases h : c = q
    · subst h; rw [escQ_self]; exact fun e => hq (List.cons.inj e).1.symm
    · rw [escQ_ne h]; exact fun e => h (List.cons.inj e).1

theorem un_q (q : Char) (r : List Char) : Lexer.unescape q ('\\' :: q :: r) = q :: Lexer.unescape q r := by
  simp [Lexer.unescape]
theorem un_bs (q c : Char) (h : c ≠ q) (r : List Char) :
    Lexer.unescape q ('\\' :: c :: r) = '\\' :: Lexer.unescape q (c :: r) := by
  simp [Lexer.unescape, h]
theorem un_plain (q c : Char) (h : c ≠ '\\') (r : List Char) :
    Lexer.unescape q (c :: r) = c :: Lexer.unescape q r := by
  rw [Lexer.unescape]
  intro c' r' hh; exact absurd hh h
theorem un_bs_buf (q : Char) (buf : List Char) (h : ∀ tl, buf ≠ q :: tl) :
    Lexer.unescape q ('\\' :: buf) = '\\' :: Lexer.unescape q buf := by
  cases buf with
  | nil => simp [Lexer.unescape]
  | cons d tl =>
    have : d ≠ q := fun e => h tl (by rw [e])
    rw [un_bs _ _ this]

theorem unescape_escQ (q : Char) (hq : q ≠ '\\') (s : List Char) : Lexer.unescape q (escQ q s) = s := by
  induction s with
  | nil => simp [escQ, Lexer.unescape]
  | cons c cs ih =>
    by_cases h2 : c = q
    · subst h2; rw [escQ_self, un_q, ih]
    · rw [escQ_ne h2]
      by_cases h1 : c = '\\'
      · subst h1; rw [un_bs_buf _ _ (escQ_head_ne hq cs), ih]
      · rw [un_plain _ _ h1, ih]

theorem consumeInside_escQ' (q : Char) (hq : q ≠ '\\') (s rest : List Char) (h : goQ q false s = true) :
    Lexer.consumeInside q (escQ q s ++ q :: rest) [] = some (escQ q s, rest) := by
  simpa [pre] using consumeInside_escQ q hq rest s false [] h

end Spell

theorem raw_roundtrip (s : List Char) (hs : rawSpellable s = true) (rest : List Char) (pos : Nat) :
    Lexer.lexOne pos '\'' (rawBody s ++ '\'' :: rest)
      = .ok (some (.literal (.str (String.ofList s))), rest) := by
  have hq : '\'' ≠ '\\' := by decide
  rw [rawSpellable, rawSpellable_go_eq] at hs
  rw [rawBody_eq, lexOne_sq _ _ _ _ (consumeInside_escQ' _ hq s rest hs), unescape_escQ _ hq]

/-- backtick-safe: no odd run of backslashes directly before a backtick or at the end -/
def btSafe (t : List Char) : Bool := Spell.goQ '`' false t

theorem backtick_layer (t : List Char) (ht : btSafe t = true) (rest : List Char) :
    ∃ x, Lexer.consumeInside '`' (escBacktick t ++ '`' :: rest) [] = some (x, rest) ∧
      Lexer.unescape '`' x = t := by
  have hq : '`' ≠ '\\' := by decide
  exact ⟨escQ '`' t, by rw [escBacktick_eq]; exact consumeInside_escQ' _ hq t rest ht,
    unescape_escQ _ hq t⟩

theorem literal_lexOne (v : Val) (hparse : JsonText.parse (JsonPrint.compact v).toList = some v)
    (hbt : btSafe (JsonPrint.compact v).toList = true) (rest : List Char) (pos : Nat) :
    Lexer.lexOne pos '`' (escBacktick (JsonPrint.compact v).toList ++ '`' :: rest) = .ok (some (.literal v), rest) := by
  obtain ⟨x, h1, h2⟩ := backtick_layer _ hbt rest
  exact lexOne_bt _ _ _ _ _ h1 (by rw [h2]; exact hparse)

/-! ### necessity of the guard -/
namespace Spell

theorem ci_acc (q : Char) (cs : List Char) : ∀ acc acc' : List Char,
    Lexer.consumeInside q cs (acc ++ acc')
      = (Lexer.consumeInside q cs acc).map (fun p => (acc'.reverse ++ p.1, p.2)) := by
  intro acc
  fun_induction Lexer.consumeInside q cs acc with
  | case1 acc => intro acc'; simp [Lexer.consumeInside]
  | case2 cs acc => intro acc'; simp [ci_close]
  | case3 acc c cs h1 ih =>
    intro acc'
    rw [ci_pair _ (Ne.symm h1)]
    simpa using ih acc'
  | case4 acc h1 =>
    intro acc'
    rw [Lexer.consumeInside.eq_def]
    simp [h1]
  | case5 c cs acc h1 h2 ih =>
    intro acc'
    rw [ci_plain _ _ h1 h2]
    simpa using ih acc'

theorem ci_acc_some {q : Char} {cs acc buf r : List Char} (h : Lexer.consumeInside q cs acc = some (buf, r)) :
    ∃ b, Lexer.consumeInside q cs [] = some (b, r) ∧ buf = acc.reverse ++ b := by
  rw [← List.nil_append acc, ci_acc] at h
  simp only [Option.map_eq_some_iff, Prod.mk.injEq] at h
  obtain ⟨⟨b, r'⟩, hb, rfl, rfl⟩ := h
  exact ⟨b, hb, rfl⟩

/-- the buffer returned by `consumeInside` never starts with the closing character -/
theorem ci_head_ne (q : Char) (cs buf r : List Char)
    (h : Lexer.consumeInside q cs [] = some (buf, r)) : ∀ tl, buf ≠ q :: tl := by
  intro tl
  cases cs with
  | nil => simp [Lexer.consumeInside] at h
  | cons c cs =>
    by_cases h1 : c = q
    · subst h1; rw [ci_close] at h; simp at h; simp [h.1]
    · by_cases h2 : c = '\\'
      · subst h2
        cases cs with
        | nil => rw [Lexer.consumeInside.eq_def] at h; simp [h1] at h
        | cons c2 cs =>
          rw [ci_pair _ (Ne.symm h1)] at h
          obtain ⟨b, _, rfl⟩ := ci_acc_some h
          simp [h1]
      · rw [ci_plain _ _ h1 h2] at h
        obtain ⟨b, _, rfl⟩ := ci_acc_some h
        simp [h1]

/-- when the guard fails the lexer either runs off the end or returns a buffer that does not
decode to the intended string -/
theorem consumeInside_bad (q : Char) (hq : q ≠ '\\') (s : List Char) :
    ∀ (odd : Bool), goQ q odd s = false → ∀ buf r,
      Lexer.consumeInside q (pre odd ++ escQ q s ++ [q]) [] = some (buf, r) →
      Lexer.unescape q buf ≠ pre odd ++ s := by
  induction s with
  | nil =>
    intro odd h buf r hc
    cases odd
    · simp [goQ] at h
    · simp only [pre, escQ, List.cons_append, List.nil_append] at hc
      rw [ci_pair _ hq] at hc
      simp [Lexer.consumeInside] at hc
  | cons c cs ih =>
    intro odd h buf r hc
    by_cases h1 : c = '\\'
    · subst h1
      simp only [goQ, if_true] at h
      rw [escQ_ne (Ne.symm hq)] at hc
      cases odd
      · have := ih true h buf r (by simpa [pre] using hc)
        simpa [pre] using this
      · simp only [pre, List.cons_append, List.nil_append, ci_pair q hq] at hc
        obtain ⟨b, hb, rfl⟩ := ci_acc_some hc
        have := ih false h b r (by simpa [pre] using hb)
        show Lexer.unescape q ('\\' :: '\\' :: b) ≠ _
        rw [un_bs _ _ (Ne.symm hq), un_bs_buf _ _ (ci_head_ne q _ _ _ hb)]
        simpa [pre] using this
    · by_cases h2 : c = q
      · subst h2
        rw [escQ_self] at hc
        cases odd
        · simp only [goQ, if_neg h1, if_true, Bool.not_false, Bool.true_and] at h
          simp only [pre, List.cons_append, List.nil_append, ci_pair c hq] at hc
          obtain ⟨b, hb, rfl⟩ := ci_acc_some hc
          have := ih false h b r (by simpa [pre] using hb)
          show Lexer.unescape c ('\\' :: c :: b) ≠ _
          rw [un_q]
          simpa [pre] using this
        · simp only [pre, List.cons_append, List.nil_append, ci_pair c hq, ci_close] at hc
          simp at hc
          rw [← hc.1]
          simp [Lexer.unescape, pre, Ne.symm hq]
      · simp only [goQ, if_neg h1, if_neg h2] at h
        rw [escQ_ne h2] at hc
        cases odd
        · simp only [pre, List.cons_append, List.nil_append, ci_plain q c h2 h1] at hc
          obtain ⟨b, hb, rfl⟩ := ci_acc_some hc
          have := ih false h b r (by simpa [pre] using hb)
          show Lexer.unescape q (c :: b) ≠ _
          rw [un_plain _ _ h1]
          simpa [pre] using this
        · simp only [pre, List.cons_append, List.nil_append, ci_pair q hq] at hc
          obtain ⟨b, hb, rfl⟩ := ci_acc_some hc
          have := ih false h b r (by simpa [pre] using hb)
          show Lexer.unescape q ('\\' :: c :: b) ≠ _
          rw [un_bs _ _ h2, un_plain _ _ h1]
          simpa [pre] using this

end Spell

namespace Spell

/-- a segment that the parity scan crosses transparently, from an even state to an even state -/
def Good (q : Char) (a : List Char) : Prop := ∀ tl, goQ q false (a ++ tl) = goQ q false tl

theorem Good.nil (q : Char) : Good q [] := fun _ => rfl
theorem Good.append {q : Char} {a b : List Char} (ha : Good q a) (hb : Good q b) : Good q (a ++ b) := by
  intro tl; rw [List.append_assoc, ha, hb]
theorem Good.safe {q : Char} {a : List Char} (ha : Good q a) : goQ q false a = true := by
  have := ha []; simpa [goQ] using this
theorem Good.single {q c : Char} (h : c ≠ '\\') : Good q [c] := by
  intro tl; simp [goQ, h]
theorem Good.esc {q c : Char} (h : c ≠ q) : Good q ['\\', c] := by
  intro tl; by_cases h1 : c = '\\' <;> simp [goQ, h, h1]
theorem Good.cons {q c : Char} {a : List Char} (h : c ≠ '\\') (ha : Good q a) : Good q (c :: a) :=
  Good.append (Good.single h) ha
theorem Good.noBs {q : Char} : ∀ {a : List Char}, '\\' ∉ a → Good q a
  | [], _ => Good.nil q
  | c :: a, h => by
    simp only [List.mem_cons, not_or] at h
    exact Good.cons (Ne.symm h.1) (Good.noBs h.2)

theorem good_escapeChar (c : Char) : Good '`' (JsonPrint.escapeChar c) := by
  have h := JsonRT.escapeShape c
  generalize JsonPrint.escapeChar c = l at h
  cases h with
  | plain _ h2 _ => exact Good.single h2
  | short e he _ => exact Good.esc he
  | hex h =>
    exact Good.append (a := ['\\', 'u']) (Good.esc (by decide))
      (Good.cons (by decide) (Good.cons (by decide) (Good.cons (hexDigit_ne_bs (by omega))
        (Good.single (hexDigit_ne_bs (Nat.mod_lt _ (by decide)))))))

theorem good_flatMap_escapeChar (k : List Char) : Good '`' (k.flatMap JsonPrint.escapeChar) := by
  induction k with
  | nil => exact Good.nil _
  | cons c k ih => rw [List.flatMap_cons]; exact Good.append (good_escapeChar c) ih

theorem good_quote (s : String) : Good '`' (JsonPrint.quote s).toList := by
  simp only [JsonPrint.quote, String.toList_ofList]
  exact Good.cons (by decide) (Good.append (good_flatMap_escapeChar _) (Good.single (by decide)))

/-! numbers contain no backslash -/

theorem noBs_natToString (n : Nat) : '\\' ∉ (toString n).toList := by
  rw [Nat.toString_eq_ofList_toDigits, String.toList_ofList]
  intro hm; have := Nat.isDigit_of_mem_toDigits (by decide) (by decide) hm; revert this; decide

theorem noBs_intToString (i : Int) : '\\' ∉ (toString i).toList := by
  show '\\' ∉ (Int.repr i).toList
  cases i with
  | ofNat n => simpa [Int.repr] using noBs_natToString n
  | negSucc n =>
    simp only [Int.repr, String.toList_append]
    have := noBs_natToString (n + 1)
    simp [toString] at this
    simp [this]

theorem noBs_natDigits (n : Nat) : '\\' ∉ JsonPrint.natDigits n := noBs_natToString n

theorem noBs_strip {ds : List Char} (h : '\\' ∉ ds) : '\\' ∉ JsonPrint.stripTrailingZeros ds := by
  intro hm
  simp only [JsonPrint.stripTrailingZeros, List.mem_reverse] at hm
  have := (List.dropWhile_sublist _).mem hm
  exact h (by simpa using this)

theorem noBs_zeros (n : Nat) : '\\' ∉ JsonPrint.zeros n := by
  simp [JsonPrint.zeros]

theorem noBs_shortest_go (f : F64) (e10 : Int) : ∀ fuel p, '\\' ∉ (JsonPrint.shortest.go f (f.toRat) e10 fuel p).1 := by
  intro fuel
  induction fuel with
  | zero => exact fun _ => noBs_natDigits 0
  | succ n ih =>
    intro p
    rw [JsonPrint.shortest.go]
    split
    · split
      · simp
      · -- with `.1` still there, unification unfolds `stripTrailingZeros` and the digits under it
        dsimp only
        exact noBs_strip (noBs_natDigits _)
    · exact ih _

theorem noBs_floatText (f : F64) : '\\' ∉ (JsonPrint.floatText f).toList := by
  unfold JsonPrint.floatText
  split
  · split <;> decide
  · rename_i s m e _
    have hds : '\\' ∉ (JsonPrint.shortest (.fin false m e)).1 := by
      unfold JsonPrint.shortest; exact noBs_shortest_go _ _ _ _
    generalize JsonPrint.shortest (.fin false m e) = p at hds
    obtain ⟨ds, ex⟩ := p
    simp only at hds
    simp only [String.toList_ofList, List.mem_append, not_or]
    refine ⟨by split <;> simp, ?_⟩
    split
    · split
      · split
        · simp [hds, noBs_zeros]
        · simp [mt List.mem_of_mem_take hds, mt List.mem_of_mem_drop hds]
      · simp [hds, noBs_zeros]
    · have hm : '\\' ∉ (match ds with
          | [d] => [d]
          | d :: rest => d :: '.' :: rest
          | [] => ['0']) := by
        split
        · simpa using hds
        · simp at hds ⊢; exact hds
        · simp
      have := noBs_natDigits ex.natAbs
      simp only [List.mem_append, not_or]
      refine ⟨⟨⟨hm, by simp⟩, by split <;> simp⟩, this⟩
  · decide

theorem noBs_numText (n : Num) : '\\' ∉ (JsonPrint.numText n).toList := by
  cases n with
  | pos n => exact noBs_natToString n
  | neg i => exact noBs_intToString i
  | flt f => exact noBs_floatText f

mutual
theorem good_compact : ∀ v : Val, Good '`' (JsonPrint.compact v).toList
  | .null => by rw [JsonPrint.compact]; exact Good.noBs (by decide)
  | .bool true => by rw [JsonPrint.compact]; exact Good.noBs (by decide)
  | .bool false => by rw [JsonPrint.compact]; exact Good.noBs (by decide)
  | .num n => by rw [JsonPrint.compact]; exact Good.noBs (noBs_numText n)
  | .str s => by rw [JsonPrint.compact]; exact good_quote s
  | .arr xs => by
    rw [JsonPrint.compact]
    simp only [String.toList_append]
    exact Good.append (Good.append (Good.noBs (by decide)) (good_compactElems xs)) (Good.noBs (by decide))
  | .obj kvs => by
    rw [JsonPrint.compact]
    simp only [String.toList_append]
    exact Good.append (Good.append (Good.noBs (by decide)) (good_compactMembers kvs)) (Good.noBs (by decide))
  | .expref _ => by rw [JsonPrint.compact]; exact good_quote _
theorem good_compactElems : ∀ xs : List Val, Good '`' (JsonPrint.compactElems xs).toList
  | [] => by rw [JsonPrint.compactElems]; exact Good.noBs (by decide)
  | [v] => by rw [JsonPrint.compactElems]; exact good_compact v
  | v :: w :: vs => by
    rw [JsonPrint.compactElems.eq_3 _ _ (by simp)]
    simp only [String.toList_append]
    exact Good.append (Good.append (good_compact v) (Good.noBs (by decide))) (good_compactElems (w :: vs))
theorem good_compactMembers : ∀ kvs : List (String × Val), Good '`' (JsonPrint.compactMembers kvs).toList
  | [] => by rw [JsonPrint.compactMembers]; exact Good.noBs (by decide)
  | [(k, v)] => by
    rw [JsonPrint.compactMembers]
    simp only [String.toList_append]
    exact Good.append (Good.append (good_quote k) (Good.noBs (by decide))) (good_compact v)
  | (k, v) :: w :: r => by
    rw [JsonPrint.compactMembers.eq_3 _ _ _ (by simp)]
    simp only [String.toList_append]
    exact Good.append (Good.append (Good.append (Good.append (good_quote k) (Good.noBs (by decide)))
      (good_compact v)) (Good.noBs (by decide))) (good_compactMembers (w :: r))
end

end Spell

/-- printed JSON is backtick-safe (also for a value that is not JSON: the placeholder printed for an expression
reference is a JSON string) -/
theorem compact_btSafe (v : Val) : btSafe (JsonPrint.compact v).toList = true :=
  (good_compact v).safe

#print axioms quoted_roundtrip
#print axioms raw_roundtrip
#print axioms backtick_layer
#print axioms compact_btSafe

end JmesVerif
