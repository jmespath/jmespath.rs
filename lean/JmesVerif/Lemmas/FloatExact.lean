import JmesVerif.Lemmas.FloatExactParse
/-!
# Doubles on the exact domain survive print → parse

The JSON round-trip theorem `parse_compact` (`JsonRoundTrip.lean`) asks `FloatRoundTrips f` of every double in the
value (`v.Printable FloatRoundTrips`).  Here that is *proved* for every finite canonical double whose shortest decimal
representation has at most 15 significant digits and a decimal exponent within `±22`
(`InExactDomain`; zeros included), which is the domain on which serde_json's default number parser —
`(significand as f64) ×/÷ 10^|e|`, one rounding — is exact:

* `shortest_spec` (`FloatExactShortest.lean`): the digits the printer finds spell a decimal that rounds to `f`;
* `parseInteger_floatBody` (`FloatExactParse.lean`): the parser reads each layout of `floatText` as a
  significand that is itself a double (`DomainCond`; `≤ 2^53` suffices) and an exponent within `±22`;
* `f64FromParts_exact_of_repr'` (`FloatExactNum.lean`): on such input the parser returns the correctly rounded double.
-/
namespace JmesVerif
open F64 JsonText JsonPrint JsonRT FloatExact

/-- **the exact domain**: zero, or a finite double whose shortest decimal representation
(`JsonPrint.shortest` of its magnitude: digits `ds`, scientific exponent `ex`) satisfies
`FloatExact.DomainCond`: the digit search succeeded (`ds ≠ "0"`), `|ds| ≤ 15`, the exponent of the
integer significand `ex − (|ds| − 1)` lies within `±22`, and, when the text is laid out as `ddd000.0`
(`0 ≤ ex < 16`, `|ds| ≤ ex + 1`), the significand the parser accumulates *including the appended zero*,
`D · 10^(ex + 2 − |ds|)`, is itself a double (in particular whenever it is `≤ 2^53`;
`FloatExact.DomainCond.of_le`).  Decidable.  The last clause cannot be dropped
(`C08_float_roundtrip_counterexample`). -/
def InExactDomain : F64 → Prop
  | .fin _ m e =>
    m = 0 ∨ DomainCond (shortest (.fin false m e)).1 (shortest (.fin false m e)).2
  | _ => False

instance (f : F64) : Decidable (InExactDomain f) := by
  cases f <;> unfold InExactDomain <;> exact inferInstance

theorem ofRat_zero' : F64.ofRat 0 = .fin false 0 (-1074) := by
  simp [F64.ofRat, roundPos]

/-- `0.0` and `-0.0` -/
theorem floatRoundTrips_zero (s : Bool) : FloatRoundTrips (.fin s 0 (-1074)) := by
  intro rest hr
  have hr' : NumEnd rest := hr
  have hparse : ∀ positive, parseInteger positive ('0' :: '.' :: (['0'] ++ rest)) =
      some (.f (if positive then ofRat (((0 : Nat) : Rat) * JsonPrint.pow10 (-1))
                else (ofRat (((0 : Nat) : Rat) * JsonPrint.pow10 (-1))).neg), rest) := fun positive =>
    parseInteger_numText_short positive (ip := ['0']) (fr := ['0']) (x := none) rest (Or.inl rfl)
      (Digits.cons (by decide) Digits.nil) (Or.inl (by simp)) (by decide) hr'
      (ds := ['0']) (Digits.cons (by decide) Digits.nil) (by decide) rfl rfl (by decide)
  have hz : (((0 : Nat) : Rat) * JsonPrint.pow10 (-1)) = 0 := by simp
  rw [hz, ofRat_zero'] at hparse
  cases s
  · have ht : (floatText (.fin false 0 (-1074))).toList = '0' :: '.' :: ['0'] := by decide
    rw [ht]
    exact parseValue_of_parseInteger_true (hparse true) 0 128
  · have ht : (floatText (.fin true 0 (-1074))).toList = '-' :: '0' :: '.' :: ['0'] := by decide
    rw [ht]
    exact parseValue_of_parseInteger_false (hparse false) 0 128

/-- **the float hypothesis of the JSON round trip holds on the exact domain** -/
theorem floatRoundTrips_of_exactDomain (f : F64) (hc : f.Canon) (hfin : f.isFinite)
    (hd : InExactDomain f) : FloatRoundTrips f := by
  cases f with
  | inf s => cases hfin
  | nan => cases hfin
  | fin s m e =>
    by_cases hm : m = 0
    · subst hm
      have he : e = -1074 := CanonME.exp_of_zero hc
      subst he
      exact floatRoundTrips_zero s
    · have hdom : DomainCond (shortest (.fin false m e)).1 (shortest (.fin false m e)).2 := by
        rcases hd with h | h
        · exact absurd h hm
        · exact h
      have hspec : DigitsSpec (.fin false m e) (shortest (.fin false m e)).1 (shortest (.fin false m e)).2 := by
        rcases shortest_spec (m := m) (e := e) hc hm with h | h
        · exact absurd (congrArg Prod.fst h) hdom.1
        · exact h
      intro rest hr
      have hr' : NumEnd rest := hr
      have hparse := fun positive => parseInteger_floatBody positive _ _ rest hspec.isDigit hspec.head hdom hr'
      have hval : ofRat (spelled (shortest (.fin false m e)).1 (shortest (.fin false m e)).2) = .fin false m e :=
        hspec.value
      rw [hval] at hparse
      rw [floatText_fin s m e hm]
      cases s
      · exact parseValue_of_parseInteger_true (hparse true) 0 128
      · exact parseValue_of_parseInteger_false (hparse false) 0 128

/-- print → parse is the identity on the exact domain, for the pretty printer -/
theorem parse_pretty_exactDomain (v : Val)
    (hv : v.Printable (fun f => f.Canon ∧ f.isFinite ∧ InExactDomain f)) :
    JsonText.parse (JsonPrint.pretty 0 v).toList = some v :=
  parse_pretty v ⟨JsonRT.Shape.mono (fun f h => floatRoundTrips_of_exactDomain f h.1 h.2.1 h.2.2) v hv.1, hv.2⟩

/-! ### the domain is inhabited, and its last clause is needed -/

/-- `1.5`, `0.1`, `1e22`, `-123456789012345.0`, `1000000000000000.0`, `1.234567e-16` are in the exact
domain (kernel evaluation of the decidable predicate) -/
theorem inExactDomain_examples :
    InExactDomain (F64.ofRat (3 / 2)) ∧ InExactDomain (F64.ofRat (1 / 10)) ∧
    InExactDomain (F64.ofRat (10 ^ 22)) ∧ InExactDomain (F64.ofRat (-123456789012345)) ∧
    InExactDomain (F64.ofRat (10 ^ 15)) ∧ InExactDomain (F64.ofRat (1234567 / 10 ^ 22)) := by
  decide +kernel

example : FloatRoundTrips (F64.ofRat (1 / 10)) :=
  floatRoundTrips_of_exactDomain _ (ofRat_canon _) (by decide +kernel) inExactDomain_examples.2.1

/-- the double `7205759403792820.0`: 15 significant digits, decimal exponent 1 -/
def counterexample : F64 := .fin false 7205759403792820 0

theorem counterexample_text : (floatText counterexample).toList = "7205759403792820.0".toList := by
  decide +kernel

/-- it satisfies every clause of the domain but the last (the parser accumulates
`72057594037928200`, which is not a double) -/
theorem counterexample_almost :
    counterexample.Canon ∧ counterexample.isFinite ∧
    (shortest counterexample).1.length ≤ 15 ∧ (shortest counterexample).1 ≠ ['0'] ∧
    (shortest counterexample).2 - (((shortest counterexample).1.length : Int) - 1) = 1 ∧
    ¬ InExactDomain counterexample :=
  -- one evaluation for all four clauses: the kernel runs the digit search once
  ⟨Or.inr (Or.inr ⟨by decide, by decide, by decide, by decide⟩), rfl, by decide +kernel⟩

end JmesVerif

#print axioms JmesVerif.FloatExact.f64FromParts_exact
#print axioms JmesVerif.FloatExact.shortest_spec
#print axioms JmesVerif.floatRoundTrips_zero
#print axioms JmesVerif.floatRoundTrips_of_exactDomain
#print axioms JmesVerif.parse_pretty_exactDomain
#print axioms JmesVerif.inExactDomain_examples
