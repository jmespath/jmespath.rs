import JmesVerif.Model.Serde
import JmesVerif.Lemmas.SerdeValue
/-!
# The serde bridge (`Serializer` / `Deserializer for Variable`) against serde_json

1. `ser_eq_val` — serialising string-keyed data for searching yields serde_json's value;
2. `lenient_val` — the F15 defect (missing length check): what the strict decoder accepts, the lenient one
   accepts with the same result;
3. `rt_all` — a well-typed Rust value survives serialise → (identity search) → deserialise.
-/
namespace JmesVerif

namespace SerdeB
mutual
theorem ser_eq_val (x : SVal) (h : svStringKeyed x = true) : svToVariable x = svToJson x := by
  cases x with
  | some v | newtypeStruct v => exact ser_eq_val v h
  | newtypeVariant _ v => exact congrArg (Option.map _) (ser_eq_val v h)
  | seq vs | tupleVariant _ vs => exact congrArg (Option.map _) (ser_eq_seq vs h)
  | map kvs => exact congrArg (Option.map _) (ser_eq_map kvs h [])
  | struct fs | structVariant _ fs => exact congrArg (Option.map _) (ser_eq_fields fs h [])
  | _ => rfl
theorem ser_eq_seq : ∀ vs : List SVal, svAllStringKeyed vs = true → svSeqToVariable vs = svSeqToJson vs
  | [], _ => rfl
  | v :: vs, h => by
    simp only [svAllStringKeyed, Bool.and_eq_true] at h
    simp only [svSeqToVariable, svSeqToJson, ser_eq_val v h.1, ser_eq_seq vs h.2]
theorem ser_eq_map : ∀ kvs : List (SVal × SVal), svMapStringKeyed kvs = true →
    ∀ acc, svMapToVariable kvs acc = svMapToJson kvs acc
  | [], _, _ => rfl
  | (k, v) :: r, h, acc => by
    simp only [svMapStringKeyed, Bool.and_eq_true] at h
    obtain ⟨⟨hk, hv⟩, hr⟩ := h
    simp only [svMapToVariable, svMapToJson, ser_eq_val v hv, ser_eq_map r hr]
    cases k <;> simp at hk <;> simp [svToVariable, jsonKey]
theorem ser_eq_fields : ∀ fs : List (String × SVal), svFieldsStringKeyed fs = true →
    ∀ acc, svFieldsToVariable fs acc = svFieldsToJson fs acc
  | [], _, _ => rfl
  | (k, v) :: r, h, acc => by
    simp only [svFieldsStringKeyed, Bool.and_eq_true] at h
    simp only [svFieldsToVariable, svFieldsToJson, ser_eq_val v h.1, ser_eq_fields r h.2]
end

theorem map_some_mono {α β : Type} {a b : Option α} {f : α → β} {t : β}
    (hab : ∀ x, a = some x → b = some x) (h : a.map f = some t) : b.map f = some t := by
  cases a with
  | none => cases h
  | some x => rw [hab x rfl]; exact h

theorem optMapL_mono {α β : Type} (f g : α → Option β) (hfg : ∀ x y, f x = some y → g x = some y) :
    ∀ (xs : List α) (ys : List β), optMapL f xs = some ys → optMapL g xs = some ys
  | [], _, h => h
  | x :: xs, _, h => by
    unfold optMapL at h ⊢
    cases hx : f x with
    | none => rw [hx] at h; cases h
    | some y => rw [hx] at h; rw [hfg x y hx]; exact map_some_mono (optMapL_mono f g hfg xs) h

mutual
theorem lenient_val : ∀ (s : Shape) (v : Val) (t : TVal), deVal ⟨true⟩ s v = some t → deVal ⟨false⟩ s v = some t := by
  intro s v t h
  cases s with
  | option s =>
    cases v with
    | null => exact h
    | _ => exact map_some_mono (lenient_val s _) h
  | newtype s => exact map_some_mono (lenient_val s v) h
  | seq s =>
    cases v with
    | arr xs => exact map_some_mono (optMapL_mono _ _ (lenient_val s) xs) h
    | _ => cases h
  | tuple ss =>
    cases v with
    | arr xs => exact map_some_mono (lenient_tuple ss xs) h
    | _ => cases h
  | map s =>
    cases v with
    | obj kvs => exact map_some_mono (optMapL_mono _ _ (fun p _ => map_some_mono (lenient_val s p.2)) kvs) h
    | _ => cases h
  | struct fields =>
    cases v with
    | arr xs => exact map_some_mono (lenient_fieldsSeq fields xs) h
    | obj kvs => exact map_some_mono (lenient_structMap fields kvs) h
    | _ => cases h
  | enum variants =>
    cases v with
    | str name => exact lenient_enum variants name none t h
    | obj kvs =>
      match kvs, h with
      | [(name, payload)], h => exact lenient_enum variants name (some payload) t h
      | [], h => cases h
      | _ :: _ :: _, h => cases h
    | _ => cases h
  | _ => cases v <;> exact h
theorem lenient_enum : ∀ (variants : List (String × VShape)) (name : String) (payload : Option Val) (t : TVal),
    deEnum ⟨true⟩ name payload variants = some t → deEnum ⟨false⟩ name payload variants = some t
  | [], _, _, _, h => by cases h
  | (n, vs) :: rest, name, payload, t, h => by
    by_cases hn : n = name
    · exact (if_pos hn).trans (lenient_variant vs name payload t ((if_pos hn).symm.trans h))
    · exact (if_neg hn).trans (lenient_enum rest name payload t ((if_neg hn).symm.trans h))
theorem lenient_tuple : ∀ (ss : List Shape) (xs : List Val) (ts : List TVal),
    deTuple ⟨true⟩ ss xs = some ts → deTuple ⟨false⟩ ss xs = some ts
  | [], [], _, h => h
  | [], _ :: _, _, h => by cases h
  | _ :: _, [], _, h => by cases h
  | s :: ss, x :: xs, _, h => by
    unfold deTuple at h ⊢
    cases hx : deVal ⟨true⟩ s x with
    | none => rw [hx] at h; cases h
    | some y => rw [hx] at h; rw [lenient_val s x y hx]; exact map_some_mono (lenient_tuple ss xs) h
theorem lenient_structMap : ∀ (fields : List (String × Shape)) (kvs : List (String × Val)) (ts : List TVal),
    deStructMap ⟨true⟩ fields kvs = some ts → deStructMap ⟨false⟩ fields kvs = some ts
  | [], _, _, h => h
  | (f, s) :: rest, kvs, ts, h => by
    unfold deStructMap at h ⊢
    cases hl : Val.lookup f kvs with
    | some x =>
      simp only [hl] at h ⊢
      cases hx : deVal ⟨true⟩ s x with
      | none => rw [hx] at h; cases h
      | some y => rw [hx] at h; rw [lenient_val s x y hx]; exact map_some_mono (lenient_structMap rest kvs) h
    | none =>
      simp only [hl] at h ⊢
      cases s with
      | option _ => exact map_some_mono (lenient_structMap rest kvs) h
      | _ => cases h
theorem lenient_fieldsSeq : ∀ (fields : List (String × Shape)) (xs : List Val) (ts : List TVal),
    deFieldsSeq ⟨true⟩ fields xs = some ts → deFieldsSeq ⟨false⟩ fields xs = some ts
  | [], [], _, h => h
  | [], _ :: _, _, h => by cases h
  | _ :: _, [], _, h => by cases h
  | (_, s) :: ss, x :: xs, _, h => by
    unfold deFieldsSeq at h ⊢
    cases hx : deVal ⟨true⟩ s x with
    | none => rw [hx] at h; cases h
    | some y => rw [hx] at h; rw [lenient_val s x y hx]; exact map_some_mono (lenient_fieldsSeq ss xs) h
theorem lenient_variant : ∀ (vs : VShape) (name : String) (payload : Option Val) (t : TVal),
    deVariant ⟨true⟩ name vs payload = some t → deVariant ⟨false⟩ name vs payload = some t := by
  intro vs name payload t h
  cases vs with
  | unit =>
    cases payload with
    | none => exact h
    | some v => cases v <;> exact h
  | newtype s =>
    cases payload with
    | none => cases h
    | some v => exact map_some_mono (lenient_val s v) h
  | tuple ss =>
    cases payload with
    | none => cases h
    | some v =>
      cases v with
      | arr xs =>
        cases xs with
        | nil => cases h
        | cons x xs => exact map_some_mono (lenient_tuple ss (x :: xs)) h
      | _ => cases h
  | struct fields =>
    cases payload with
    | none => cases h
    | some v =>
      cases v with
      | obj kvs => exact map_some_mono (lenient_structMap fields kvs) h
      | _ => cases h
end

end SerdeB


mutual
/-- `WellTyped s t`: the typed value `t` inhabits the Rust type described by `s`, *and* satisfies
the side conditions under which serialise-then-deserialise is the identity.  Pairs of a shape and a
value of another kind are not well typed (`derive(Serialize)` would not even present them: `serOf`
is `none`).  Condition by condition:

* `.int signed bits, .int v` — `intInRange signed bits v`: the value fits the integer type (the
  visitor rejects anything else; a Rust value of that type always satisfies it).
* `.f64, .f64 x` — `x` finite: NaN/±∞ serialise to `null` (`Number::from_f64` fails), which does not
  decode as a float.
* `.f32, .f32 x` — `x` finite and `toF32 x = x`: the widened value is an f32 (always true of a Rust
  `f32`), because decoding narrows with `as f32`.
* `.option s, .some t` — the inner value is well typed and does **not** serialise to `null`:
  `Some(())`, `Some(None)`, `Some(f64::NAN)`… come back as `None` (serde_json behaves the same).
* `.seq s, .seq ts` — every element well typed.  `.tuple ss, .seq ts` — pointwise (`WellTypedTuple`).
* `.map s, .map kvs` — keys strictly increasing (the iteration order of a `BTreeMap`; the result is
  rebuilt in key order, so any other presentation order or a duplicate key cannot be reproduced)
  and every value well typed.
* `.struct fields, .struct ts` — field names pairwise distinct (a later duplicate would overwrite
  the earlier member of the object; Rust guarantees distinctness), values pointwise well typed
  (`WellTypedFields`).
* `.newtype s, .newtype t` — the inner value well typed.
* `.bool`, `.char`, `.string`, `.unit`, `.unitStruct`, `.option _, .none` — no condition.
* `.enum variants, .variant name payload` — `WellTypedEnum`: the **first** declared variant called
  `name` exists and the payload has that variant's kind (`WellTypedVariant`): nothing for a unit
  variant; a well-typed value for a newtype variant; for a tuple variant pointwise well-typed
  components and **at least one component** (an empty tuple variant serialises to `{"V": []}`, which
  neither deserializer decodes back); for a struct variant distinct field names and pointwise
  well-typed values.  Pairwise distinctness of the variant *names* is **not**
  required: `serVariant` and `deEnum` both use the first variant of that name, so they agree even
  in the presence of (impossible in Rust) duplicates. -/
def WellTyped : Shape → TVal → Prop
  | .bool, .bool _ => True
  | .int signed bits, .int v => intInRange signed bits v = true
  | .f32, .f32 x => x.isFinite = true ∧ toF32 x = x
  | .f64, .f64 x => x.isFinite = true
  | .char, .char _ => True
  | .string, .str _ => True
  | .unit, .unit => True
  | .option _, .none => True
  | .option s, .some t => WellTyped s t ∧ ∀ sv, serOf s t = some sv → svToVariable sv ≠ some .null
  | .seq s, .seq ts => ∀ t ∈ ts, WellTyped s t
  | .tuple ss, .seq ts => WellTypedTuple ss ts
  | .map s, .map kvs => List.Pairwise (fun a b => a.1 < b.1) kvs ∧ ∀ p ∈ kvs, WellTyped s p.2
  | .struct fields, .struct ts => (fields.map (·.1)).Nodup ∧ WellTypedFields fields ts
  | .newtype s, .newtype t => WellTyped s t
  | .unitStruct, .unitStruct => True
  | .enum variants, .variant name payload => WellTypedEnum name payload variants
  | _, _ => False
def WellTypedTuple : List Shape → List TVal → Prop
  | [], [] => True
  | s :: ss, t :: ts => WellTyped s t ∧ WellTypedTuple ss ts
  | _, _ => False
def WellTypedFields : List (String × Shape) → List TVal → Prop
  | [], [] => True
  | (_, s) :: ss, t :: ts => WellTyped s t ∧ WellTypedFields ss ts
  | _, _ => False
def WellTypedEnum (name : String) (payload : Option TVal) : List (String × VShape) → Prop
  | [] => False
  | (n, vs) :: rest => if n = name then WellTypedVariant vs payload else WellTypedEnum name payload rest
def WellTypedVariant : VShape → Option TVal → Prop
  | .unit, none => True
  | .newtype s, some t => WellTyped s t
  | .tuple ss, some (.seq ts) => ss ≠ [] ∧ WellTypedTuple ss ts
  | .struct fields, some (.struct ts) => (fields.map (·.1)).Nodup ∧ WellTypedFields fields ts
  | _, _ => False
end

namespace SerdeB

/-- the round-trip property for one typed value -/
def RT (s : Shape) (t : TVal) : Prop :=
  ∃ sv v, serOf s t = some sv ∧ svToVariable sv = some v ∧ deVal ⟨true⟩ s v = some t

def TupleRT : List Shape → List TVal → Prop
  | [], [] => True
  | s :: ss, t :: ts => RT s t ∧ TupleRT ss ts
  | _, _ => False

def FieldsRT : List (String × Shape) → List TVal → Prop
  | [], [] => True
  | (_, s) :: ss, t :: ts => RT s t ∧ FieldsRT ss ts
  | _, _ => False

/-- `Vec<T>`: element-wise -/
theorem seq_rt (s : Shape) : ∀ ts : List TVal, (∀ t ∈ ts, RT s t) →
    ∃ svs vs, optMapL (fun t => serOf s t) ts = some svs ∧ svSeqToVariable svs = some vs ∧
      optMapL (fun x => deVal ⟨true⟩ s x) vs = some ts
  | [], _ => ⟨[], [], rfl, rfl, rfl⟩
  | t :: ts, h => by
    obtain ⟨sv, v, h1, h2, h3⟩ := h t (by simp)
    obtain ⟨svs, vs, g1, g2, g3⟩ := seq_rt s ts (fun t ht => h t (by simp [ht]))
    exact ⟨sv :: svs, v :: vs, by simp [optMapL, h1, g1], by simp [svSeqToVariable, h2, g2],
      by simp [optMapL, h3, g3]⟩

/-- tuples: component-wise; the produced array has exactly as many elements as the tuple -/
theorem tuple_rt : ∀ (ss : List Shape) (ts : List TVal), TupleRT ss ts →
    ∃ svs vs, serTuple ss ts = some svs ∧ svSeqToVariable svs = some vs ∧
      deTuple ⟨true⟩ ss vs = some ts ∧ vs.length = ss.length
  | [], [], _ => ⟨[], [], rfl, rfl, rfl, rfl⟩
  | s :: ss, t :: ts, h => by
    obtain ⟨⟨sv, v, h1, h2, h3⟩, h'⟩ := h
    obtain ⟨svs, vs, g1, g2, g3, g4⟩ := tuple_rt ss ts h'
    exact ⟨sv :: svs, v :: vs, by simp [serTuple, h1, g1], by simp [svSeqToVariable, h2, g2],
      by simp [deTuple, h3, g3], by simp [g4]⟩
  | [], _ :: _, h => by simp [TupleRT] at h
  | _ :: _, [], h => by simp [TupleRT] at h

/-- `BTreeMap<String, T>`: with strictly increasing keys every `insert` appends -/
theorem map_rt (s : Shape) : ∀ kvs : List (String × TVal), (∀ p ∈ kvs, RT s p.2) →
    List.Pairwise (fun a b => a.1 < b.1) kvs →
    ∃ skvs vkvs, optMapL (fun (p : String × TVal) => (serOf s p.2).map fun v => (SVal.str p.1, v)) kvs = some skvs ∧
      (∀ acc : List (String × Val), (∀ a ∈ acc, ∀ p ∈ kvs, a.1 < p.1) →
        svMapToVariable skvs acc = some (acc ++ vkvs)) ∧
      optMapL (fun (p : String × Val) => (deVal ⟨true⟩ s p.2).map fun t => (p.1, t)) vkvs = some kvs
  | [], _, _ => ⟨[], [], rfl, by intro acc _; simp [svMapToVariable], rfl⟩
  | (k, t) :: r, h, hp => by
    obtain ⟨sv, v, h1, h2, h3⟩ := h (k, t) (by simp)
    rw [List.pairwise_cons] at hp
    obtain ⟨skvs, vkvs, g1, g2, g3⟩ := map_rt s r (fun p hp' => h p (by simp [hp'])) hp.2
    refine ⟨(.str k, sv) :: skvs, (k, v) :: vkvs, by simp [optMapL, h1, g1], ?_, by simp [optMapL, h3, g3]⟩
    intro acc hacc
    have hk : svToVariable (SVal.str k) = some (.str k) := rfl
    simp only [svMapToVariable, hk, h2]
    have ⟨hi, hb⟩ := insertKV_below v hacc hp.1
    rw [hi, g2 _ hb]
    simp

/-- structs: with distinct field names every field is found again under its name -/
theorem fields_rt : ∀ (fields : List (String × Shape)) (ts : List TVal), FieldsRT fields ts →
    (fields.map (·.1)).Nodup →
    ∃ fsvs, serFields fields ts = some fsvs ∧
      ∀ acc, ∃ m, svFieldsToVariable fsvs acc = some m ∧
        (∀ g, g ∉ fields.map (·.1) → Val.lookup g m = Val.lookup g acc) ∧
        deStructMap ⟨true⟩ fields m = some ts
  | [], [], _, _ => ⟨[], rfl, fun acc => ⟨acc, rfl, fun _ _ => rfl, rfl⟩⟩
  | (f, s) :: rest, t :: ts, h, hd => by
    obtain ⟨⟨sv, v, h1, h2, h3⟩, h'⟩ := h
    simp only [List.map_cons, List.nodup_cons] at hd
    obtain ⟨fsvs, g1, g2⟩ := fields_rt rest ts h' hd.2
    refine ⟨(f, sv) :: fsvs, by simp [serFields, h1, g1], ?_⟩
    intro acc
    obtain ⟨m, m1, m2, m3⟩ := g2 (insertKV f v acc)
    refine ⟨m, by simp [svFieldsToVariable, h2, m1], ?_, ?_⟩
    · intro g hg
      simp only [List.map_cons, List.mem_cons, not_or] at hg
      rw [m2 g hg.2, lookup_insertKV, if_neg hg.1]
    · have hl : Val.lookup f m = some v := by rw [m2 f hd.1, lookup_insertKV, if_pos rfl]
      simp [deStructMap, hl, h3, m3]
  | [], _ :: _, h, _ => by simp [FieldsRT] at h
  | _ :: _, [], h, _ => by simp [FieldsRT] at h

/-- `serVariant` only looks at the first variant with the right name -/
theorem serVariant_cons (name : String) (payload : Option TVal) (n : String) (vs : VShape)
    (rest : List (String × VShape)) :
    serVariant name payload ((n, vs) :: rest) =
      if n = name then serVariant name payload [(name, vs)] else serVariant name payload rest := by
  by_cases h : n = name
  · subst h
    rw [if_pos rfl, serVariant.eq_def, serVariant.eq_def n payload [(n, vs)]]
    simp only [if_pos]
  · rw [if_neg h, serVariant.eq_def]
    simp only [if_neg h]

/-- round trip of an enum value, given the variant's shape -/
def VariantRT (name : String) (vs : VShape) (payload : Option TVal) : Prop :=
  ∃ sv, serVariant name payload [(name, vs)] = some sv ∧
    ((svToVariable sv = some (.str name) ∧
        deVariant ⟨true⟩ name vs none = some (.variant name payload)) ∨
     ∃ p, svToVariable sv = some (.obj [(name, p)]) ∧
        deVariant ⟨true⟩ name vs (some p) = some (.variant name payload))

def EnumRT (name : String) (payload : Option TVal) (variants : List (String × VShape)) : Prop :=
  ∃ sv, serVariant name payload variants = some sv ∧
    ((svToVariable sv = some (.str name) ∧
        deEnum ⟨true⟩ name none variants = some (.variant name payload)) ∨
     ∃ p, svToVariable sv = some (.obj [(name, p)]) ∧
        deEnum ⟨true⟩ name (some p) variants = some (.variant name payload))

theorem numToInt_numOfInt (v : Int) : numToInt (numOfInt v) = some v := by
  unfold numOfInt
  split
  · rfl
  · simp only [numToInt]; congr 1; omega

/-- All five round-trip statements at once, along the recursion of `WellTyped`: its defining cases are
exactly the pairs of a shape and a value of that shape, and on every other pair it is `False`. -/
theorem rt_all :
    (∀ s t, WellTyped s t → RT s t) ∧
    (∀ name payload variants, WellTypedEnum name payload variants → EnumRT name payload variants) ∧
    (∀ vs payload name, WellTypedVariant vs payload → VariantRT name vs payload) ∧
    (∀ fields ts, WellTypedFields fields ts → FieldsRT fields ts) ∧
    (∀ ss ts, WellTypedTuple ss ts → TupleRT ss ts) := by
  apply WellTyped.mutual_induct
  -- `WellTyped`: bool, int, f32, f64, char, string, unit, `None`, `Some`, seq, tuple, map, struct, newtype struct,
  -- unit struct, enum; then the pairs on which it is `False`
  · exact fun b _ => ⟨.bool b, .bool b, rfl, rfl, rfl⟩
  · intro sg bits v (h : intInRange sg bits v = true)
    exact ⟨.int v, .num (numOfInt v), rfl, rfl, by simp [deVal, numToInt_numOfInt, h]⟩
  · intro x h
    exact ⟨.f32 x, .num (.flt x), rfl, by simp [svToVariable, valOfF64, h.1], by simp [deVal, Num.toF64, h.2]⟩
  · intro x (h : x.isFinite = true)
    exact ⟨.f64 x, .num (.flt x), rfl, by simp [svToVariable, valOfF64, h], by simp [deVal, Num.toF64]⟩
  · exact fun c _ => ⟨.char c, .str (String.singleton c), rfl, rfl, by simp [deVal]⟩
  · exact fun s _ => ⟨.str s, .str s, rfl, rfl, rfl⟩
  · exact fun _ => ⟨.unit, .null, rfl, rfl, rfl⟩
  · exact fun s _ => ⟨.none, .null, rfl, rfl, rfl⟩
  · intro s t ih h
    obtain ⟨sv, v, h1, h2, h3⟩ := ih h.1
    have hn : v ≠ .null := fun e => h.2 sv h1 (by rw [h2, e])
    refine ⟨.some sv, v, congrArg (Option.map _) h1, h2, ?_⟩
    cases v <;> simp_all [deVal]
  · intro s ts ih h
    obtain ⟨svs, vs, h1, h2, h3⟩ := seq_rt s ts (fun t ht => ih t (h t ht))
    exact ⟨.seq svs, .arr vs, congrArg (Option.map _) h1, congrArg (Option.map _) h2, congrArg (Option.map _) h3⟩
  · intro ss ts ih h
    obtain ⟨svs, vs, h1, h2, h3, _⟩ := tuple_rt ss ts (ih h)
    exact ⟨.seq svs, .arr vs, congrArg (Option.map _) h1, congrArg (Option.map _) h2, congrArg (Option.map _) h3⟩
  · intro s kvs ih h
    obtain ⟨skvs, vkvs, h1, h2, h3⟩ := map_rt s kvs (fun p hp => ih p (h.2 p hp)) h.1
    have h2' := h2 [] (by simp)
    exact ⟨.map skvs, .obj vkvs, congrArg (Option.map _) h1, congrArg (Option.map _) h2', congrArg (Option.map _) h3⟩
  · intro fields ts ih h
    obtain ⟨fsvs, h1, h2⟩ := fields_rt fields ts (ih h.2) h.1
    obtain ⟨m, m1, _, m3⟩ := h2 []
    exact ⟨.struct fsvs, .obj m, congrArg (Option.map _) h1, congrArg (Option.map _) m1, congrArg (Option.map _) m3⟩
  · intro s t ih h
    obtain ⟨sv, v, h1, h2, h3⟩ := ih h
    exact ⟨.newtypeStruct sv, v, congrArg (Option.map _) h1, h2, congrArg (Option.map _) h3⟩
  · exact fun _ => ⟨.unitStruct, .null, rfl, rfl, rfl⟩
  · intro variants name payload ih h
    obtain ⟨sv, h1, h2⟩ := ih h
    rcases h2 with ⟨h2, h3⟩ | ⟨p, h2, h3⟩
    · exact ⟨sv, .str name, h1, h2, h3⟩
    · exact ⟨sv, .obj [(name, p)], h1, h2, h3⟩
  · intros; rename_i h; simp only [WellTyped] at h
  -- `WellTypedVariant`: unit, newtype, tuple and struct variant; then `False`
  · exact fun name _ => ⟨.unitVariant name, by simp [serVariant], .inl ⟨rfl, rfl⟩⟩
  · intro s t ih name h
    obtain ⟨sv, v, h1, h2, h3⟩ := ih h
    exact ⟨.newtypeVariant name sv, by simp [serVariant, h1], .inr ⟨v, congrArg (Option.map _) h2, congrArg (Option.map _) h3⟩⟩
  · intro ss ts ih name h
    obtain ⟨svs, vs, h1, h2, h3, h4⟩ := tuple_rt ss ts (ih h.2)
    have hne : vs ≠ [] := by
      intro e; subst e; cases ss with
      | nil => exact h.1 rfl
      | cons _ _ => simp at h4
    exact ⟨.tupleVariant name svs, by simp [serVariant, h1],
      .inr ⟨.arr vs, congrArg (Option.map _) h2, by simp [deVariant, hne, h3]⟩⟩
  · intro fields ts ih name h
    obtain ⟨fsvs, h1, h2⟩ := fields_rt fields ts (ih h.2) h.1
    obtain ⟨m, m1, _, m3⟩ := h2 []
    exact ⟨.structVariant name fsvs, by simp [serVariant, h1],
      .inr ⟨.obj m, congrArg (Option.map _) m1, congrArg (Option.map _) m3⟩⟩
  · intros; rename_i h; simp only [WellTypedVariant] at h
  -- `WellTypedTuple`: nil, cons; then `False`
  · exact fun _ => trivial
  · intro s ss t ts ih1 ih2 h
    exact ⟨ih1 h.1, ih2 h.2⟩
  · intros; rename_i h; simp only [WellTypedTuple] at h
  -- `WellTypedFields`: nil, cons; then `False`
  · exact fun _ => trivial
  · intro _ s ss t ts ih1 ih2 h
    exact ⟨ih1 h.1, ih2 h.2⟩
  · intros; rename_i h; simp only [WellTypedFields] at h
  -- `WellTypedEnum`: no variant left, the variant named, another variant
  · intro _ _ h; simp [WellTypedEnum] at h
  · intro payload n vs rest ih h
    simp only [WellTypedEnum, if_pos] at h
    unfold EnumRT
    rw [serVariant_cons]
    simp only [deEnum, if_pos]
    exact ih n h
  · intro name payload n vs rest hn ih h
    simp only [WellTypedEnum, if_neg hn] at h
    unfold EnumRT
    rw [serVariant_cons]
    simp only [deEnum, if_neg hn]
    exact ih h

theorem rt_tuple : ∀ (ss : List Shape) (ts : List TVal), WellTypedTuple ss ts → TupleRT ss ts :=
  rt_all.2.2.2.2
theorem rt_fields : ∀ (fields : List (String × Shape)) (ts : List TVal), WellTypedFields fields ts → FieldsRT fields ts :=
  rt_all.2.2.2.1
theorem rt_enum : ∀ (variants : List (String × VShape)) (name : String) (payload : Option TVal),
    WellTypedEnum name payload variants → EnumRT name payload variants :=
  fun variants name payload => rt_all.2.1 name payload variants
theorem rt_variant : ∀ (vs : VShape) (name : String) (payload : Option TVal),
    WellTypedVariant vs payload → VariantRT name vs payload :=
  fun vs name payload => rt_all.2.2.1 vs payload name

end SerdeB


/-! ### four of the side conditions of `WellTyped` are not idle -/

/-- `Some(())` of an `Option<()>` comes back as `None` -/
theorem option_unit_not_roundtrip :
    serOf (.option .unit) (.some .unit) = some (.some .unit) ∧ svToVariable (.some .unit) = some .null ∧
      deVar (.option .unit) .null = some .none :=
  ⟨rfl, rfl, rfl⟩

/-- an empty tuple variant `V()` serialises to `{"V": []}`, which is rejected -/
theorem empty_tuple_variant_not_roundtrip :
    serOf (.enum [("V", .tuple [])]) (.variant "V" (some (.seq []))) = some (.tupleVariant "V" []) ∧
      svToVariable (.tupleVariant "V" []) = some (.obj [("V", .arr [])]) ∧
      deVar (.enum [("V", .tuple [])]) (.obj [("V", .arr [])]) = none :=
  ⟨rfl, rfl, rfl⟩

/-- a NaN serialises to `null`, which is not an `f64` -/
theorem nan_not_roundtrip :
    serOf .f64 (.f64 .nan) = some (.f64 .nan) ∧ svToVariable (.f64 .nan) = some .null ∧
      deVar .f64 .null = none :=
  ⟨rfl, rfl, rfl⟩

/-- a map presented out of key order comes back in key order -/
theorem unsorted_map_not_roundtrip :
    serOf (.map .bool) (.map [("b", .bool true), ("a", .bool false)])
        = some (.map [(.str "b", .bool true), (.str "a", .bool false)]) ∧
      svToVariable (.map [(.str "b", .bool true), (.str "a", .bool false)])
        = some (.obj [("a", .bool false), ("b", .bool true)]) ∧
      deVar (.map .bool) (.obj [("a", .bool false), ("b", .bool true)])
        = some (.map [("a", .bool false), ("b", .bool true)]) := by
  refine ⟨rfl, ?_, rfl⟩
  have h : ("a" : String) < "b" := by decide
  simp [svToVariable, svMapToVariable, insertKV, h]



end JmesVerif
