import JmesVerif.Lemmas.Fuel
import JmesVerif.Spec.Sem
import JmesVerif.Model.Interp
import JmesVerif.Props.C07
/-
One convergence rule per `interpret` arm: if the sub-evaluations converge (for all large enough
fuel) to what the semantics says, so does the node.  The rules do not depend on which errors stand
for the semantics' `none`: they are stated for any class `E` of errors (`CIx E`), and only the slice
rule needs `E` to contain the invalid-slice error.  `CI` is the instance "exactly the invalid-slice
error" used for the core language; the rules of `Lemmas/SemFullBase.lean` are the instance "any
genuine `JmespathError`".
-/
namespace JmesVerif
open Spec

/-- the outcome `r` is the value `s` (with the offset unchanged), or the invalid-slice error -/
def Agrees {α : Type} (r : ERes α) (s : Option α) (off : Nat) : Prop :=
  match s with
  | some v => r = .ok (v, off)
  | none => ∃ o, r = .error (.runtime .invalidSlice o)

/-- the outcome `r` is the value `s` (with the offset unchanged), or an error of class `E` -/
def AgreesE {α : Type} (E : EvalErr → Prop) (r : ERes α) (s : Option α) (off : Nat) : Prop :=
  match s with
  | some v => r = .ok (v, off)
  | none => ∃ e, r = .error e ∧ E e

/-- the error class of the core language: the invalid-slice error, at any offset -/
def InvalidSlice (e : EvalErr) : Prop := ∃ o, e = .runtime .invalidSlice o

theorem agrees_iff {α : Type} {r : ERes α} {s : Option α} {off : Nat} :
    Agrees r s off ↔ AgreesE InvalidSlice r s off := by
  cases s with
  | some v => exact Iff.rfl
  | none => exact ⟨fun ⟨o, h⟩ => ⟨_, h, o, rfl⟩, fun ⟨_, h, o, he⟩ => ⟨o, he ▸ h⟩⟩

variable (rt : Registry)

def CI (d : Val) (a : Ast) (off : Nat) (s : Option Val) : Prop :=
  ∃ n, ∀ fuel, n ≤ fuel → Agrees (interp rt fuel d a off) s off
def CA (d : Val) (es : List Ast) (off : Nat) (s : Option (List Val)) : Prop :=
  ∃ n, ∀ fuel, n ≤ fuel → Agrees (interpAll rt fuel d es off) s off
def CK (d : Val) (kvs : List (String × Ast)) (acc : List (String × Val)) (off : Nat)
    (s : Option (List (String × Val))) : Prop :=
  ∃ n, ∀ fuel, n ≤ fuel → Agrees (interpKVs rt fuel d kvs acc off) s off


variable (E : EvalErr → Prop)

def CIx (d : Val) (a : Ast) (off : Nat) (s : Option Val) : Prop :=
  ∃ n, ∀ fuel, n ≤ fuel → AgreesE E (interp rt fuel d a off) s off
def CPx (xs : List Val) (a : Ast) (off : Nat) (s : Option (List Val)) : Prop :=
  ∃ n, ∀ fuel, n ≤ fuel → AgreesE E (projectEach rt fuel xs a off) s off
def CAx (d : Val) (es : List Ast) (off : Nat) (s : Option (List Val)) : Prop :=
  ∃ n, ∀ fuel, n ≤ fuel → AgreesE E (interpAll rt fuel d es off) s off
def CKx (d : Val) (kvs : List (String × Ast)) (acc : List (String × Val)) (off : Nat)
    (s : Option (List (String × Val))) : Prop :=
  ∃ n, ∀ fuel, n ≤ fuel → AgreesE E (interpKVs rt fuel d kvs acc off) s off

theorem ci_iff {d : Val} {a : Ast} {off : Nat} {s : Option Val} :
    CI rt d a off s ↔ CIx rt InvalidSlice d a off s :=
  exists_congr fun _ => forall_congr' fun _ => imp_congr_right fun _ => agrees_iff
theorem ca_iff {d : Val} {es : List Ast} {off : Nat} {s : Option (List Val)} :
    CA rt d es off s ↔ CAx rt InvalidSlice d es off s :=
  exists_congr fun _ => forall_congr' fun _ => imp_congr_right fun _ => agrees_iff
theorem ck_iff {d : Val} {kvs : List (String × Ast)} {acc : List (String × Val)} {off : Nat}
    {s : Option (List (String × Val))} :
    CK rt d kvs acc off s ↔ CKx rt InvalidSlice d kvs acc off s :=
  exists_congr fun _ => forall_congr' fun _ => imp_congr_right fun _ => agrees_iff

/-! ### convergence of a computation indexed by fuel

Every arm of the interpreter runs a sub-evaluation, stops at its error, and otherwise goes on with
its value.  `ConvIf E P R s off` says that `R n` agrees with `s` for all large `n` at which `P n`
holds; `P` collects the equations "the earlier sub-evaluations returned these values", under which
`R n` can be rewritten to what is left to run. -/
section conv
variable {α β : Type} {E} {off : Nat}

def ConvIf (E : EvalErr → Prop) (P : Nat → Prop) (R : Nat → ERes α) (s : Option α) (off : Nat) : Prop :=
  ∃ m, ∀ n, m ≤ n → P n → AgreesE E (R n) s off

theorem ConvIf.congr {P : Nat → Prop} {R : Nat → ERes α} {s s' : Option α}
    (h : ConvIf E P R s off) (e : s = s') : ConvIf E P R s' off := e ▸ h

theorem ConvIf.ok {P : Nat → Prop} {R : Nat → ERes α} {v : α}
    (heq : ∀ n, P n → R n = .ok (v, off)) : ConvIf E P R (some v) off :=
  ⟨0, fun n _ hp => heq n hp⟩

theorem ConvIf.err {P : Nat → Prop} {R : Nat → ERes α} {e : EvalErr} (he : E e)
    (heq : ∀ n, P n → R n = .error e) : ConvIf E P R none off :=
  ⟨0, fun n _ hp => ⟨e, heq n hp, he⟩⟩

/-- what is left to run is a computation known to converge -/
theorem ConvIf.of_conv {P : Nat → Prop} {R r : Nat → ERes α} {s : Option α}
    (h : ∃ m, ∀ n, m ≤ n → AgreesE E (r n) s off) (heq : ∀ n, P n → R n = r n) :
    ConvIf E P R s off :=
  let ⟨m, hm⟩ := h; ⟨m, fun n hn hp => heq n hp ▸ hm n hn⟩

/-- run `r`; at an error `R` stops with it; at a value `v` go on under the equation `r n = ok v` -/
theorem ConvIf.bind {P : Nat → Prop} {r : Nat → ERes α} {R : Nat → ERes β} {s : Option α}
    {t : α → Option β} {off' : Nat} (h : ∃ m, ∀ n, m ≤ n → AgreesE E (r n) s off')
    (herr : ∀ n e, P n → r n = .error e → R n = .error e)
    (hok : ∀ v, s = some v → ConvIf E (fun n => P n ∧ r n = .ok (v, off')) R (t v) off) :
    ConvIf E P R (s.bind t) off := by
  obtain ⟨m1, h1⟩ := h
  cases s with
  | none =>
    exact ⟨m1, fun n hn hp => let ⟨e, he, hE⟩ := h1 n hn; ⟨e, herr n e hp he, hE⟩⟩
  | some v =>
    obtain ⟨m2, h2⟩ := hok v rfl
    exact ⟨max m1 m2, fun n hn hp => h2 n (by omega) ⟨hp, h1 n (by omega)⟩⟩

/-- the same when the value is only post-processed -/
theorem ConvIf.map {P : Nat → Prop} {r : Nat → ERes α} {R : Nat → ERes β} {s : Option α}
    {f : α → β} {off' : Nat} (h : ∃ m, ∀ n, m ≤ n → AgreesE E (r n) s off')
    (herr : ∀ n e, P n → r n = .error e → R n = .error e)
    (hok : ∀ v n, P n → r n = .ok (v, off') → R n = .ok (f v, off)) :
    ConvIf E P R (s.map f) off :=
  (ConvIf.bind h herr fun v _ => ConvIf.ok fun n hp => hok v n hp.1 hp.2).congr (by cases s <;> rfl)

theorem ConvIf.run {R : Nat → ERes α} {s : Option α} (h : ConvIf E (fun _ => True) R s off) :
    ∃ m, ∀ n, m ≤ n → AgreesE E (R n) s off :=
  let ⟨m, hm⟩ := h; ⟨m, fun n hn => hm n hn trivial⟩

/-- a node at fuel `n + 1` runs its parts at fuel `n` -/
theorem conv_succ {R : Nat → ERes α} {s : Option α}
    (h : ConvIf E (fun _ => True) (fun n => R (n + 1)) s off) :
    ∃ m, ∀ n, m ≤ n → AgreesE E (R n) s off :=
  let ⟨m, hm⟩ := h
  ⟨m + 1, fun _ hf => let ⟨k, hk, hmk⟩ := fuel_succ hf; hk ▸ hm k hmk trivial⟩

end conv

theorem ci_identity (d : Val) (o off : Nat) : CIx rt E d (.identity o) off (some d) :=
  conv_succ (.ok fun _ _ => by simp only [interp])

theorem ci_field (d : Val) (o off : Nat) (s : String) : CIx rt E d (.field o s) off (some (Sem.field d s)) :=
  conv_succ (.ok fun _ _ => by cases d <;> simp [interp, Val.getField, Sem.field])

theorem ci_literal (d v : Val) (o off : Nat) : CIx rt E d (.literal o v) off (some v) :=
  conv_succ (.ok fun _ _ => by simp only [interp])

theorem ci_expref (d : Val) (o off : Nat) (a : Ast) : CIx rt E d (.expref o a) off (some (.expref a)) :=
  conv_succ (.ok fun _ _ => by simp only [interp])

theorem ci_index (d : Val) (o off : Nat) (i : Int) : CIx rt E d (.index o i) off (some (Sem.index d i)) :=
  conv_succ (.ok fun _ _ => by cases d <;> simp [interp, Sem.index, C07_index_eq_python])

theorem ci_subexpr {d : Val} {l r : Ast} {o off : Nat} {sl : Option Val} {g : Val → Option Val}
    (hl : CIx rt E d l off sl) (hr : ∀ lv, sl = some lv → CIx rt E lv r off (g lv)) :
    CIx rt E d (.subexpr o l r) off (sl.bind g) :=
  conv_succ <| .bind hl (fun n e _ he => by simp only [interp, he]) fun lv hlv =>
    .of_conv (hr lv hlv) fun n hp => by simp only [interp, hp.2]

theorem truthy_eq : ∀ v : Val, v.isJson = true → v.truthy = Sem.truthy v
  | .null, _ => rfl
  | .bool b, _ => by cases b <;> rfl
  | .num _, _ => rfl
  | .str s, _ => by simp [Val.truthy, Sem.truthy, Sem.isFalse]
  | .arr xs, _ => by cases xs <;> simp [Val.truthy, Sem.truthy, Sem.isFalse]
  | .obj kvs, _ => by cases kvs <;> simp [Val.truthy, Sem.truthy, Sem.isFalse]
  | .expref _, h => by simp [Val.isJson] at h

theorem ci_or {d : Val} {l r : Ast} {o off : Nat} {sl sr : Option Val}
    (hl : CIx rt E d l off sl) (hr : ∀ lv, sl = some lv → lv.truthy = false → CIx rt E d r off sr) :
    CIx rt E d (.or o l r) off (sl.bind fun lv => if lv.truthy then some lv else sr) :=
  conv_succ <| .bind hl (fun n e _ he => by simp only [interp, he]) fun lv hlv => by
    cases ht : lv.truthy
    · exact .of_conv (hr lv hlv ht) fun n hp => by simp [interp, hp.2, ht]
    · exact .ok fun n hp => by simp [interp, hp.2, ht]

theorem ci_and {d : Val} {l r : Ast} {o off : Nat} {sl sr : Option Val}
    (hl : CIx rt E d l off sl) (hr : ∀ lv, sl = some lv → lv.truthy = true → CIx rt E d r off sr) :
    CIx rt E d (.and o l r) off (sl.bind fun lv => if !lv.truthy then some lv else sr) :=
  conv_succ <| .bind hl (fun n e _ he => by simp only [interp, he]) fun lv hlv => by
    cases ht : lv.truthy
    · exact .ok fun n hp => by simp [interp, hp.2, ht]
    · exact .of_conv (hr lv hlv ht) fun n hp => by simp [interp, hp.2, ht]

theorem ci_not {d : Val} {a : Ast} {o off : Nat} {s : Option Val}
    (h : CIx rt E d a off s) : CIx rt E d (.not o a) off (s.map fun v => .bool (!v.truthy)) :=
  conv_succ <| .map h (fun n e _ he => by simp only [interp, he]) fun v n _ he => by simp only [interp, he]

theorem ci_condition {d : Val} {p t : Ast} {o off : Nat} {sp st : Option Val}
    (hp : CIx rt E d p off sp) (ht : ∀ c, sp = some c → c.truthy = true → CIx rt E d t off st) :
    CIx rt E d (.condition o p t) off (sp.bind fun c => if c.truthy then st else some .null) :=
  conv_succ <| .bind hp (fun n e _ he => by simp only [interp, he]) fun c hc => by
    cases hct : c.truthy
    · exact .ok fun n hp => by simp [interp, hp.2, hct]
    · exact .of_conv (ht c hc hct) fun n hp => by simp [interp, hp.2, hct]

theorem ci_comparison {d : Val} {l r : Ast} {o off : Nat} {c : Cmp} {sl sr : Option Val}
    (hl : CIx rt E d l off sl) (hr : ∀ lv, sl = some lv → CIx rt E d r off sr) :
    CIx rt E d (.comparison o c l r) off (sl.bind fun lv => sr.map fun rv => Sem.cmpVal c lv rv) :=
  conv_succ <| .bind hl (fun n e _ he => by simp only [interp, he]) fun lv hlv =>
    .map (hr lv hlv) (fun n e hp he => by simp only [interp, hp.2, he]) fun rv n hp he => by
      simp only [interp, hp.2, he, Sem.cmpVal]
      cases Val.compare c lv rv <;> rfl

theorem values_eq (kvs : List (String × Val)) : (kvs.map fun (_, v) => v) = Sem.values kvs := by
  induction kvs with
  | nil => rfl
  | cons kv r ih => obtain ⟨k, v⟩ := kv; simp [Sem.values]

theorem ci_objectValues {d : Val} {a : Ast} {o off : Nat} {s : Option Val}
    (h : CIx rt E d a off s) :
    CIx rt E d (.objectValues o a) off
      (s.map fun v => match v with | .obj kvs => .arr (Sem.values kvs) | _ => .null) :=
  conv_succ <| .map h (fun n e _ he => by simp only [interp, he]) fun v n _ he => by
    cases v <;> simp [interp, he, values_eq]

theorem flatMap_eq_flatten1 (xs : List Val) :
    (xs.flatMap fun x => match x with | .arr ys => ys | other => [other]) = Sem.flatten1 xs := by
  induction xs with
  | nil => rfl
  | cons x r ih => cases x <;> simp [Sem.flatten1, List.flatMap_cons, ih]

theorem ci_flatten {d : Val} {a : Ast} {o off : Nat} {s : Option Val}
    (h : CIx rt E d a off s) :
    CIx rt E d (.flatten o a) off
      (s.map fun v => match v with | .arr xs => .arr (Sem.flatten1 xs) | _ => .null) :=
  conv_succ <| .map h (fun n e _ he => by simp only [interp, he]) fun v n _ he => by
    cases v with
    | arr xs =>
      simp only [interp, he]
      exact congrArg (fun l => Except.ok (Val.arr l, off)) (flatMap_eq_flatten1 xs)
    | _ => simp only [interp, he]

theorem ci_projection {d : Val} {l r : Ast} {o off : Nat} {sl : Option Val}
    {g : List Val → Option (List Val)}
    (hl : CIx rt E d l off sl) (hr : ∀ xs, sl = some (.arr xs) → CPx rt E xs r off (g xs)) :
    CIx rt E d (.projection o l r) off
      (sl.bind fun v => match v with | .arr xs => (g xs).map .arr | _ => some .null) :=
  conv_succ <| .bind hl (fun n e _ he => by simp only [interp, he]) fun lv hlv => by
    cases lv with
    | arr xs =>
      exact .map (hr xs hlv) (fun n e hp he => by simp only [interp, hp.2, he]) fun ys n hp he => by
        simp only [interp, hp.2, he]
    | _ => exact .ok fun n hp => by simp only [interp, hp.2]

theorem cp_each {r : Ast} {off : Nat} {f : Val → Option Val} :
    ∀ xs : List Val, (∀ x ∈ xs, CIx rt E x r off (f x)) →
      CPx rt E xs r off ((Sem.optMapM f xs).map Sem.dropNulls)
  | [], _ => conv_succ (.ok fun _ _ => by simp only [projectEach]; rfl)
  | x :: rest, h =>
    conv_succ <| (ConvIf.bind (h x (by simp)) (fun n e _ he => by simp only [projectEach, he]) fun v _ =>
      .map (f := fun ys => if v.isNull then ys else v :: ys)
        (cp_each rest fun y hy => h y (by simp [hy]))
        (fun n e hp he => by simp only [projectEach, hp.2, he])
        fun ys n hp he => by simp only [projectEach, hp.2, he]).congr <| by
      simp only [Sem.optMapM]
      cases f x with
      | none => rfl
      | some v => cases Sem.optMapM f rest <;> cases v <;> simp [Sem.dropNulls, Val.isNull]

theorem CIx.congr (off : Nat) {d : Val} {a : Ast} {s s' : Option Val} (h : CIx rt E d a off s)
    (e : s = s') : CIx rt E d a off s' := e ▸ h

/-- a projection node: left side, then the right side on every element, nulls dropped -/
theorem ci_proj (off : Nat) {d : Val} {lhs rhsA : Ast} {o : Nat} {sl : Option Val} {f : Val → Option Val}
    (hl : CIx rt E d lhs off sl)
    (hx : ∀ xs, sl = some (.arr xs) → ∀ x ∈ xs, CIx rt E x rhsA off (f x)) :
    CIx rt E d (.projection o lhs rhsA) off
      (sl.bind fun v => match v with
        | .arr xs => (Sem.optMapM f xs).map (fun ys => .arr (Sem.dropNulls ys))
        | _ => some .null) := by
  refine (ci_projection rt E (g := fun xs => (Sem.optMapM f xs).map Sem.dropNulls) hl
    (fun xs h => cp_each rt E xs (hx xs h))).congr rt E off ?_
  cases sl with
  | none => rfl
  | some v => cases v <;> simp [Option.map_map, Function.comp_def]

theorem ci_multiList {d : Val} {es : List Ast} {o off : Nat} {s : Option (List Val)}
    (h : d.isNull = false → CAx rt E d es off s) :
    CIx rt E d (.multiList o es) off (if d.isNull then some .null else s.map .arr) := by
  cases hn : d.isNull
  · exact conv_succ <| .map (h hn) (fun n e _ he => by simp [interp, hn, he]) fun v n _ he => by
      simp [interp, hn, he]
  · exact conv_succ (.ok fun _ _ => by simp [interp, hn])

theorem ci_multiHash {d : Val} {kvs : List (String × Ast)} {o off : Nat}
    {s : Option (List (String × Val))}
    (h : d.isNull = false → CKx rt E d kvs [] off s) :
    CIx rt E d (.multiHash o kvs) off (if d.isNull then some .null else s.map .obj) := by
  cases hn : d.isNull
  · exact conv_succ <| .map (h hn) (fun n e _ he => by simp [interp, hn, he]) fun v n _ he => by
      simp [interp, hn, he]
  · exact conv_succ (.ok fun _ _ => by simp [interp, hn])

theorem ci_slice (hE : ∀ o, E (.runtime .invalidSlice o)) {d : Val} {o off : Nat}
    {a b : Option Int} {step : Int}
    (hlen : step ≠ 0 → ∀ xs, d = .arr xs → (xs.length : Int) ≤ I32_MAX) :
    CIx rt E d (.slice o a b step) off
      (if step = 0 then none else
        match d with
        | .arr xs => some (.arr (pySlice xs a b step))
        | _ => some .null) := by
  by_cases hs : step = 0
  · rw [if_pos hs]
    exact conv_succ (.err (hE o) fun _ _ => by cases d <;> simp [interp, hs])
  · rw [if_neg hs]
    cases d with
    | arr xs =>
      have := C07_slice_eq_python xs a b step hs (hlen hs xs rfl)
      exact conv_succ (.ok fun _ _ => by simp [interp, hs, this])
    | _ => exact conv_succ (.ok fun _ _ => by simp [interp, hs])

/-- `*`: the projection over the values of the object on the left -/
theorem ci_objProj (off : Nat) {d : Val} {lhs rhsA : Ast} {o o' : Nat} {sl : Option Val}
    {f : Val → Option Val}
    (hl : CIx rt E d lhs off sl)
    (hx : ∀ m, sl = some (.obj m) → ∀ x ∈ Sem.values m, CIx rt E x rhsA off (f x)) :
    CIx rt E d (.projection o (.objectValues o' lhs) rhsA) off
      (sl.bind fun v => match v with
        | .obj m => (Sem.optMapM f (Sem.values m)).map (fun ys => .arr (Sem.dropNulls ys))
        | _ => some .null) := by
  cases sl with
  | none => exact ci_proj rt E off (f := f) (ci_objectValues rt E hl) (fun _ h => nomatch h)
  | some lv =>
    refine (ci_proj rt E off (f := f) (ci_objectValues rt E hl) ?_).congr rt E off (by cases lv <;> rfl)
    cases lv with
    | obj m => rintro _ ⟨⟩; exact hx m rfl
    | _ => rintro _ ⟨⟩

/-- `[]`: the projection over the flattening of the array on the left -/
theorem ci_flatProj (off : Nat) {d : Val} {lhs rhsA : Ast} {o o' : Nat} {sl : Option Val}
    {f : Val → Option Val}
    (hl : CIx rt E d lhs off sl)
    (hx : ∀ ys, sl = some (.arr ys) → ∀ x ∈ Sem.flatten1 ys, CIx rt E x rhsA off (f x)) :
    CIx rt E d (.projection o (.flatten o' lhs) rhsA) off
      (sl.bind fun v => match v with
        | .arr ys => (Sem.optMapM f (Sem.flatten1 ys)).map (fun zs => .arr (Sem.dropNulls zs))
        | _ => some .null) := by
  cases sl with
  | none => exact ci_proj rt E off (f := f) (ci_flatten rt E hl) (fun _ h => nomatch h)
  | some lv =>
    refine (ci_proj rt E off (f := f) (ci_flatten rt E hl) ?_).congr rt E off (by cases lv <;> rfl)
    cases lv with
    | arr ys => rintro _ ⟨⟩; exact hx ys rfl
    | _ => rintro _ ⟨⟩

/-- a slice projection of the current node -/
theorem ci_sliceProj (hE : ∀ o, E (.runtime .invalidSlice o)) (off : Nat) {d : Val} {rhsA : Ast}
    {o o' : Nat} {a b : Option Int} {step : Int} {f : Val → Option Val}
    (hx : step ≠ 0 → ∀ ys, d = .arr ys → (ys.length : Int) ≤ I32_MAX ∧
      ∀ x ∈ pySlice ys a b step, CIx rt E x rhsA off (f x)) :
    CIx rt E d (.projection o (.slice o' a b step) rhsA) off
      (if step = 0 then none else
        match (generalizing := false) d with
        | .arr ys => (Sem.optMapM f (pySlice ys a b step)).map (fun zs => .arr (Sem.dropNulls zs))
        | _ => some .null) := by
  refine (ci_proj rt E off (f := f) (ci_slice rt E hE fun h0 ys h => (hx h0 ys h).1) ?_).congr rt E off ?_
  · intro xs hxs
    by_cases h0 : step = 0
    · simp [h0] at hxs
    · cases d with
      | arr ys =>
        simp only [h0, if_false, Option.some.injEq, Val.arr.injEq] at hxs
        exact hxs ▸ (hx h0 ys rfl).2
      | _ => simp [h0] at hxs
  · by_cases h0 : step = 0
    · simp [h0]
    · cases d <;> simp [h0]

theorem ca_nil (d : Val) (off : Nat) : CAx rt E d [] off (some []) :=
  conv_succ (.ok fun _ _ => by simp only [interpAll])

theorem ca_cons {d : Val} {a : Ast} {rest : List Ast} {off : Nat} {s1 : Option Val}
    {s2 : Option (List Val)}
    (h1 : CIx rt E d a off s1) (h2 : ∀ v, s1 = some v → CAx rt E d rest off s2) :
    CAx rt E d (a :: rest) off (s1.bind fun v => s2.map (v :: ·)) :=
  conv_succ <| .bind h1 (fun n e _ he => by simp only [interpAll, he]) fun v hv =>
    .map (h2 v hv) (fun n e hp he => by simp only [interpAll, hp.2, he]) fun vs n hp he => by
      simp only [interpAll, hp.2, he]

theorem ck_nil (d : Val) (acc : List (String × Val)) (off : Nat) : CKx rt E d [] acc off (some acc) :=
  conv_succ (.ok fun _ _ => by simp only [interpKVs])

theorem ck_cons {d : Val} {k : String} {a : Ast} {rest : List (String × Ast)}
    {acc : List (String × Val)} {off : Nat} {s1 : Option Val}
    {g : Val → Option (List (String × Val))}
    (h1 : CIx rt E d a off s1) (h2 : ∀ v, s1 = some v → CKx rt E d rest (insertKV k v acc) off (g v)) :
    CKx rt E d ((k, a) :: rest) acc off (s1.bind g) :=
  conv_succ <| .bind h1 (fun n e _ he => by simp only [interpKVs, he]) fun v hv =>
    .of_conv (h2 v hv) fun n hp => by simp only [interpKVs, hp.2]

end JmesVerif
