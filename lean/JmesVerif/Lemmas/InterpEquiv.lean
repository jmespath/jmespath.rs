import JmesVerif.Generated.InterpCode
import JmesVerif.Lemmas.CodeEquiv
import JmesVerif.Lemmas.Compositional

/-!
# The hand-written evaluator `interp` equals the whole `interpret` function re-translated from the Rust source

`Generated/InterpCode.lean` is written by `tools/rs2lean.py` from the body of
`pub fn interpret(data, node, ctx) -> SearchResult` (interpreter.rs) on every run: one `def interpret` with one arm
per `Ast::X { .. } =>` arm, one function per `for` loop, the offset register `ctx.offset` threaded, fuel spent at
every recursive call and loop iteration (the translation scheme and the idiom table are in the header of that file).
This file proves, by induction on the fuel, that the generated `interpret` and its loop functions are equal to the
hand model `interp` / `projectEach` / `interpAll` / `interpKVs` / the `flatMap` of the Flatten arm
(`Model/Interp.lean`), which all evaluation theorems (C01, C02, C05, C11, C12) are about.

Exported statements and their side conditions (all visible in the statements):
* `a.I32Ok` — every `Ast.index` node of the tree holds an index in `(i32::MIN, i32::MAX]` and every `Ast.slice` node
  holds `start`/`stop` in the `i32` range.  In Rust these fields have type `i32`; `i32::MIN` as an index is the one
  value on which `-idx` overflows (`gen_index_min_overflows`) and the lexer never produces it
  (`C05_number_tokens_no_overflow`).  These are the domains of `gen_index_eq` and `gen_slice_eq`.
* `gen_interpret_eq_oracle`: for **every** function `slice_fn` that agrees with the model's `sliceList` (non-zero
  step, `i32` endpoints), `interpret slice_fn rt.get (callFn rt) fuel d a off = interp rt fuel d a off`, for every
  fuel, data, tree and entry offset.
* `gen_interpret_eq`: the same with the translated `slice` of `Generated/Code.lean` (`slice_rs`) under
  `SlicesOk rt fuel d a off`: no `Ast.slice` node evaluated *during this evaluation* is applied to an array of more
  than `i32::MAX` elements (`array.len() as i32` wraps beyond that; the domain of `gen_slice_eq`).  `SlicesOk`
  follows the recursion of the model, with the model's own intermediate results.
* `gen_interpret_eq_guarded`: the same without `SlicesOk`, for the translated `slice` used on every array of at most
  `i32::MAX` elements (`sliceGuarded`).
* `gen_projection_loop_eq`, `gen_multi_list_loop_eq`, `gen_function_loop_eq`, `gen_multi_hash_loop_eq`,
  `gen_flatten_loop_eq`: the loop functions (accumulator-passing) against the model's (cons-on-return).
Evaluation *inside* a function call is `callFn rt` on both sides (the parameter `evaluate` of the generated code is
instantiated with it), so expression references are evaluated by the model itself there.

The proof scripts do not depend on the shape of the generated terms (order of the `match` arms, binder names,
orientation of `if`s, extra `let`s, numbering of temporaries): they case on the *model's* data (`cases a`, `cases
xs`), unfold both sides with `.eq_def`, rewrite the first recursive call with the induction hypothesis (all
hypotheses of one fuel level are bundled in `GenEqIf`, one proof for a guarded and an unguarded `slice`), case on the
*model's* intermediate result (`interp rt n d x off`, then `l.truthy`, `d.isNull`, ...), which also opens the next
conjunct of `SlicesOk`, and go on with the call that is exposed; the leaves are `rfl`.
Only the names and argument order of the generated functions and the fixed prelude (`variable_slice`, `index_arm`,
`slice_rs`) are referred to; `tools/rs2lean_selftest.py interp` tests this on rewritten and mutated sources.
-/
namespace JmesVerif
open Generated.InterpCode

instance (x : Int) : Decidable (InI32 x) := by unfold InI32; exact inferInstance
instance : (o : Option Int) → Decidable (OptInI32 o)
  | none => isTrue trivial
  | some x => by unfold OptInI32; exact inferInstance

mutual
def Ast.I32Ok : Ast → Bool
  | .comparison _ _ l r => l.I32Ok && r.I32Ok
  | .condition _ p t => p.I32Ok && t.I32Ok
  | .identity _ => true
  | .expref _ a => a.I32Ok
  | .flatten _ a => a.I32Ok
  | .function _ _ args => Ast.i32OkL args
  | .field _ _ => true
  | .index _ i => decide (I32_MIN < i ∧ i ≤ I32_MAX)
  | .literal _ _ => true
  | .multiList _ es => Ast.i32OkL es
  | .multiHash _ kvs => Ast.i32OkK kvs
  | .not _ a => a.I32Ok
  | .projection _ l r => l.I32Ok && r.I32Ok
  | .objectValues _ a => a.I32Ok
  | .and _ l r => l.I32Ok && r.I32Ok
  | .or _ l r => l.I32Ok && r.I32Ok
  | .slice _ start stop _ => decide (OptInI32 start) && decide (OptInI32 stop)
  | .subexpr _ l r => l.I32Ok && r.I32Ok
def Ast.i32OkL : List Ast → Bool
  | [] => true
  | a :: as => a.I32Ok && Ast.i32OkL as
def Ast.i32OkK : List (String × Ast) → Bool
  | [] => true
  | (_, a) :: r => a.I32Ok && Ast.i32OkK r
end

/-- `accOk` for results that carry the offset -/
def accRes {α : Type} (acc : List α) : ERes (List α) → ERes (List α)
  | .ok (r, off) => .ok (acc ++ r, off)
  | .error e => .error e

theorem accRes_nil {α : Type} (r : ERes (List α)) : accRes [] r = r := by
  cases r with
  | error e => rfl
  | ok p => cases p; simp [accRes]

theorem gen_flatten_loop_eq (xs acc : List Val) :
    interpret_flatten_loop xs acc =
      acc ++ xs.flatMap (fun x => match x with | .arr ys => ys | other => [other]) := by
  induction xs generalizing acc with
  | nil => simp [interpret_flatten_loop]
  | cons x rest ih =>
    cases x <;> simp [interpret_flatten_loop, ih]

/-- the model's `ObjectValues` arm spells `Prod.snd` as a pattern-matching lambda -/
theorem map_snd_eq (kvs : List (String × Val)) : (kvs.map fun (_, v) => v) = kvs.map Prod.snd := rfl

/-! ### the instrumented evaluation

`SlicesOk rt fuel d a off` follows the recursion of the *model* `interp rt fuel d a off` and says that every
`Ast.slice` node it evaluates (with a non-zero step) is applied to data that is not an array of more than
`i32::MAX` elements.  Evaluation inside `callFn` is excluded: both sides call the very same `callFn rt` there. -/

mutual
def SlicesOk (rt : Registry) : Nat → Val → Ast → Nat → Prop
  | 0, _, _, _ => True
  | fuel + 1, data, node, off =>
    match node with
    | .field _ _ => True
    | .subexpr _ lhs rhs =>
      SlicesOk rt fuel data lhs off ∧
      match interp rt fuel data lhs off with
      | .error _ => True
      | .ok (l, off) => SlicesOk rt fuel l rhs off
    | .identity _ => True
    | .literal _ _ => True
    | .index _ _ => True
    | .or _ lhs rhs =>
      SlicesOk rt fuel data lhs off ∧
      match interp rt fuel data lhs off with
      | .error _ => True
      | .ok (l, off) => if l.truthy then True else SlicesOk rt fuel data rhs off
    | .and _ lhs rhs =>
      SlicesOk rt fuel data lhs off ∧
      match interp rt fuel data lhs off with
      | .error _ => True
      | .ok (l, off) => if !l.truthy then True else SlicesOk rt fuel data rhs off
    | .not _ a => SlicesOk rt fuel data a off
    | .condition _ pred thn =>
      SlicesOk rt fuel data pred off ∧
      match interp rt fuel data pred off with
      | .error _ => True
      | .ok (c, off) => if c.truthy then SlicesOk rt fuel data thn off else True
    | .comparison _ _ lhs rhs =>
      SlicesOk rt fuel data lhs off ∧
      match interp rt fuel data lhs off with
      | .error _ => True
      | .ok (_, off) => SlicesOk rt fuel data rhs off
    | .objectValues _ a => SlicesOk rt fuel data a off
    | .projection _ lhs rhs =>
      SlicesOk rt fuel data lhs off ∧
      match interp rt fuel data lhs off with
      | .ok (.arr xs, off) => SlicesOkEach rt fuel xs rhs off
      | _ => True
    | .flatten _ a => SlicesOk rt fuel data a off
    | .multiList _ es => if data.isNull then True else SlicesOkAll rt fuel data es off
    | .multiHash _ kvs => if data.isNull then True else SlicesOkKVs rt fuel data kvs off
    | .function _ _ args => SlicesOkAll rt fuel data args off
    | .expref _ _ => True
    | .slice _ _ _ step =>
      match data with
      | .arr xs => step ≠ 0 → (xs.length : Int) ≤ I32_MAX
      | _ => True
def SlicesOkEach (rt : Registry) : Nat → List Val → Ast → Nat → Prop
  | 0, _, _, _ => True
  | fuel + 1, xs, rhs, off =>
    match xs with
    | [] => True
    | x :: rest =>
      SlicesOk rt fuel x rhs off ∧
      match interp rt fuel x rhs off with
      | .error _ => True
      | .ok (_, off) => SlicesOkEach rt fuel rest rhs off
def SlicesOkAll (rt : Registry) : Nat → Val → List Ast → Nat → Prop
  | 0, _, _, _ => True
  | fuel + 1, data, nodes, off =>
    match nodes with
    | [] => True
    | n :: rest =>
      SlicesOk rt fuel data n off ∧
      match interp rt fuel data n off with
      | .error _ => True
      | .ok (_, off) => SlicesOkAll rt fuel data rest off
def SlicesOkKVs (rt : Registry) : Nat → Val → List (String × Ast) → Nat → Prop
  | 0, _, _, _ => True
  | fuel + 1, data, kvs, off =>
    match kvs with
    | [] => True
    | (_, n) :: rest =>
      SlicesOk rt fuel data n off ∧
      match interp rt fuel data n off with
      | .error _ => True
      | .ok (_, off) => SlicesOkKVs rt fuel data rest off
end

/-! ### one fuel level, for any `slice`

`guard` says how far `slice_fn` is known to agree with the model's `sliceList`: on arrays of at most `i32::MAX`
elements only (`guard` true: the translated `slice`), or on all arrays (`guard` false; `sliceGuarded` tests the length
itself, so `gen_interpret_eq_guarded` is this case).  In the first case the evaluation compared has to be `SlicesOk`. -/

structure GenEqIf (rt : Registry) (slice_fn : SliceFn) (guard : Prop) (n : Nat) : Prop where
  interp : ∀ d a off, a.I32Ok = true → (guard → SlicesOk rt n d a off) →
    interpret slice_fn rt.get (callFn rt) n d a off = interp rt n d a off
  proj : ∀ xs rhs acc off, rhs.I32Ok = true → (guard → SlicesOkEach rt n xs rhs off) →
    interpret_projection_loop slice_fn rt.get (callFn rt) n xs rhs acc off
      = accRes acc (projectEach rt n xs rhs off)
  multiList : ∀ es d acc off, Ast.i32OkL es = true → (guard → SlicesOkAll rt n d es off) →
    interpret_multi_list_loop slice_fn rt.get (callFn rt) n es d acc off
      = accRes acc (interpAll rt n d es off)
  function : ∀ es d acc off, Ast.i32OkL es = true → (guard → SlicesOkAll rt n d es off) →
    interpret_function_loop slice_fn rt.get (callFn rt) n es d acc off
      = accRes acc (interpAll rt n d es off)
  multiHash : ∀ kvs d acc off, Ast.i32OkK kvs = true → (guard → SlicesOkKVs rt n d kvs off) →
    interpret_multi_hash_loop slice_fn rt.get (callFn rt) n kvs d acc off
      = interpKVs rt n d kvs acc off

theorem GenEqIf.zero (rt : Registry) (slice_fn : SliceFn) (guard : Prop) : GenEqIf rt slice_fn guard 0 := by
  constructor <;> intros <;>
    simp only [interpret, interpret_projection_loop, interpret_multi_list_loop, interpret_function_loop,
      interpret_multi_hash_loop, JmesVerif.interp, projectEach, interpAll, interpKVs, accRes]

theorem genEqIf_succ {rt : Registry} {slice_fn : SliceFn} {guard : Prop} {n : Nat} (ih : GenEqIf rt slice_fn guard n)
    (hslice : ∀ xs start stop step, step ≠ 0 → OptInI32 start → OptInI32 stop →
        (guard → (xs.length : Int) ≤ I32_MAX) → slice_fn xs start stop step = sliceList xs start stop step) :
    GenEqIf rt slice_fn guard (n + 1) := by
  constructor
  case interp =>
    intro d a off h hs
    rw [interpret.eq_def, interp.eq_def]
    cases a
    case index o i =>
      simp only [Ast.I32Ok, decide_eq_true_eq] at h
      cases d <;> simp [index_arm, gen_index_eq _ _ h.1 h.2]
    case slice o start stop step =>
      simp only [Ast.I32Ok, Bool.and_eq_true, decide_eq_true_eq] at h
      simp only []
      by_cases hz : step = 0
      · simp [hz]
      -- `hslice` is cleared once used: left in the context, `simp_all` tries it as a rewrite rule at every leaf
      · cases d <;> simp only [SlicesOk] at hs <;> simp only [hz, variable_slice] <;>
          (try rw [hslice _ start stop step hz h.1 h.2 (hs · hz)]) <;> clear hslice <;>
          (try (repeat' split) <;> first | (simp_all; done) | grind)
    all_goals
      simp only [Ast.I32Ok, Bool.and_eq_true] at h
      simp only [SlicesOk] at hs
      simp only []
    case not o x | objectValues o x | flatten o x =>
      rw [ih.interp d x off h hs]
      rcases interp rt n d x off with e | ⟨l, o'⟩
      · rfl
      · cases l <;> first | rfl | (simp only [gen_flatten_loop_eq]; rfl)
    case subexpr o x y =>
      rw [ih.interp d x off h.1 fun g => (hs g).1]
      cases h1 : interp rt n d x off with
      | error e => rfl
      | ok p =>
        obtain ⟨l, o'⟩ := p
        simp only [h1] at hs
        exact ih.interp l y o' h.2 fun g => (hs g).2
    case or o x y | and o x y | condition o x y =>
      rw [ih.interp d x off h.1 fun g => (hs g).1]
      cases h1 : interp rt n d x off with
      | error e => rfl
      | ok p =>
        obtain ⟨l, o'⟩ := p
        simp only [h1] at hs
        cases ht : l.truthy <;> simp [ht] at hs ⊢
        all_goals exact ih.interp d y o' h.2 fun g => (hs g).2
    case comparison o c x y =>
      rw [ih.interp d x off h.1 fun g => (hs g).1]
      cases h1 : interp rt n d x off with
      | error e => rfl
      | ok p =>
        obtain ⟨l, o'⟩ := p
        simp only [h1] at hs
        simp only []
        rw [ih.interp d y o' h.2 fun g => (hs g).2]
        rcases interp rt n d y o' with e | ⟨r, o''⟩
        · rfl
        · simp only []
          cases Val.compare c l r <;> rfl
    case projection o x y =>
      rw [ih.interp d x off h.1 fun g => (hs g).1]
      cases h1 : interp rt n d x off with
      | error e => rfl
      | ok p =>
        obtain ⟨l, o'⟩ := p
        cases l with
        | arr xs =>
          simp only [h1] at hs
          simp only [ih.proj xs y [] o' h.2 fun g => (hs g).2, accRes_nil]
          rcases projectEach rt n xs y o' with e | ⟨ys, o''⟩ <;> rfl
        | _ => rfl
    case multiList o es =>
      cases hd : d.isNull with
      | true => rfl
      | false =>
        simp [hd] at hs
        rw [ih.multiList es d [] off h hs, accRes_nil]
        rcases interpAll rt n d es off with e | ⟨vs, o'⟩ <;> rfl
    case multiHash o kvs =>
      cases hd : d.isNull with
      | true => rfl
      | false =>
        simp [hd] at hs
        rw [ih.multiHash kvs d [] off h hs]
        rcases interpKVs rt n d kvs [] off with e | ⟨m, o'⟩ <;> rfl
    case function o name args =>
      rw [ih.function args d [] off h hs, accRes_nil]
      rcases interpAll rt n d args off with e | ⟨vs, o'⟩
      · rfl
      · simp only []
        cases rt.get name with
        | none => rfl
        | some f => rcases callFn rt n f vs o with e | ⟨v, o''⟩ <;> rfl
  case proj =>
    intro xs rhs acc off h hs
    rw [interpret_projection_loop.eq_def, projectEach.eq_def]
    cases xs with
    | nil => simp [accRes]
    | cons x rest =>
      simp only [SlicesOkEach] at hs
      simp only []
      rw [ih.interp x rhs off h fun g => (hs g).1]
      cases h1 : interp rt n x rhs off with
      | error e => rfl
      | ok p =>
        obtain ⟨v, o'⟩ := p
        simp only [h1] at hs
        simp only [ih.proj rest rhs _ o' h fun g => (hs g).2]
        rcases projectEach rt n rest rhs o' with e | ⟨vs, o''⟩ <;> cases v.isNull <;> simp [accRes]
  case multiList =>
    intro es d acc off h hs
    rw [interpret_multi_list_loop.eq_def, interpAll.eq_def]
    cases es with
    | nil => simp [accRes]
    | cons e rest =>
      simp only [Ast.i32OkL, Bool.and_eq_true] at h
      simp only [SlicesOkAll] at hs
      simp only []
      rw [ih.interp d e off h.1 fun g => (hs g).1]
      cases h1 : interp rt n d e off with
      | error e => rfl
      | ok p =>
        obtain ⟨v, o'⟩ := p
        simp only [h1] at hs
        simp only [ih.multiList rest d _ o' h.2 fun g => (hs g).2]
        rcases interpAll rt n d rest o' with e | ⟨vs, o''⟩ <;> simp [accRes]
  case function =>
    intro es d acc off h hs
    rw [interpret_function_loop.eq_def, interpAll.eq_def]
    cases es with
    | nil => simp [accRes]
    | cons e rest =>
      simp only [Ast.i32OkL, Bool.and_eq_true] at h
      simp only [SlicesOkAll] at hs
      simp only []
      rw [ih.interp d e off h.1 fun g => (hs g).1]
      cases h1 : interp rt n d e off with
      | error e => rfl
      | ok p =>
        obtain ⟨v, o'⟩ := p
        simp only [h1] at hs
        simp only [ih.function rest d _ o' h.2 fun g => (hs g).2]
        rcases interpAll rt n d rest o' with e | ⟨vs, o''⟩ <;> simp [accRes]
  case multiHash =>
    intro kvs d acc off h hs
    rw [interpret_multi_hash_loop.eq_def, interpKVs.eq_def]
    cases kvs with
    | nil => rfl
    | cons kv rest =>
      obtain ⟨k, e⟩ := kv
      simp only [Ast.i32OkK, Bool.and_eq_true] at h
      simp only [SlicesOkKVs] at hs
      simp only []
      rw [ih.interp d e off h.1 fun g => (hs g).1]
      cases h1 : interp rt n d e off with
      | error e => rfl
      | ok p =>
        obtain ⟨v, o'⟩ := p
        simp only [h1] at hs
        exact ih.multiHash rest d _ o' h.2 fun g => (hs g).2

theorem genEqIf_all (rt : Registry) (slice_fn : SliceFn) (guard : Prop)
    (hslice : ∀ xs start stop step, step ≠ 0 → OptInI32 start → OptInI32 stop →
        (guard → (xs.length : Int) ≤ I32_MAX) → slice_fn xs start stop step = sliceList xs start stop step) :
    ∀ n, GenEqIf rt slice_fn guard n
  | 0 => GenEqIf.zero rt slice_fn guard
  | n + 1 => genEqIf_succ (genEqIf_all rt slice_fn guard hslice n) hslice

/-- `GenEqIf` with `guard := False` -/
structure GenEq (rt : Registry) (slice_fn : SliceFn) (n : Nat) : Prop where
  interp : ∀ d a off, a.I32Ok = true →
    interpret slice_fn rt.get (callFn rt) n d a off = interp rt n d a off
  proj : ∀ xs rhs acc off, rhs.I32Ok = true →
    interpret_projection_loop slice_fn rt.get (callFn rt) n xs rhs acc off
      = accRes acc (projectEach rt n xs rhs off)
  multiList : ∀ es d acc off, Ast.i32OkL es = true →
    interpret_multi_list_loop slice_fn rt.get (callFn rt) n es d acc off
      = accRes acc (interpAll rt n d es off)
  function : ∀ es d acc off, Ast.i32OkL es = true →
    interpret_function_loop slice_fn rt.get (callFn rt) n es d acc off
      = accRes acc (interpAll rt n d es off)
  multiHash : ∀ kvs d acc off, Ast.i32OkK kvs = true →
    interpret_multi_hash_loop slice_fn rt.get (callFn rt) n kvs d acc off
      = interpKVs rt n d kvs acc off

theorem genEq_all (rt : Registry) (slice_fn : SliceFn)
    (hslice : ∀ xs start stop step, step ≠ 0 → OptInI32 start → OptInI32 stop →
        slice_fn xs start stop step = sliceList xs start stop step) (n : Nat) : GenEq rt slice_fn n :=
  have g := genEqIf_all rt slice_fn False (fun xs start stop step hz h1 h2 _ => hslice xs start stop step hz h1 h2) n
  ⟨fun d a off h => g.interp d a off h nofun, fun xs rhs acc off h => g.proj xs rhs acc off h nofun,
    fun es d acc off h => g.multiList es d acc off h nofun, fun es d acc off h => g.function es d acc off h nofun,
    fun kvs d acc off h => g.multiHash kvs d acc off h nofun⟩


section
variable (rt : Registry) (slice_fn : SliceFn)
  (hslice : ∀ xs start stop step, step ≠ 0 → OptInI32 start → OptInI32 stop →
      slice_fn xs start stop step = sliceList xs start stop step)
include hslice

/-- **the translated `interpret` equals the hand model `interp`**, for every fuel, data, tree and
entry offset, given any `slice` that agrees with `sliceList` on `i32` endpoints and non-zero steps -/
theorem gen_interpret_eq_oracle : ∀ fuel d a off, a.I32Ok = true →
    interpret slice_fn rt.get (callFn rt) fuel d a off = interp rt fuel d a off :=
  fun fuel => (genEq_all rt slice_fn hslice fuel).interp

theorem gen_projection_loop_eq : ∀ fuel xs rhs acc off, rhs.I32Ok = true →
    interpret_projection_loop slice_fn rt.get (callFn rt) fuel xs rhs acc off =
      (match projectEach rt fuel xs rhs off with
       | .error e => .error e
       | .ok (ys, off') => .ok (acc ++ ys, off')) := by
  intro fuel xs rhs acc off h
  rw [(genEq_all rt slice_fn hslice fuel).proj _ _ _ _ h]
  cases projectEach rt fuel xs rhs off <;> rfl

theorem gen_multi_list_loop_eq : ∀ fuel es d acc off, Ast.i32OkL es = true →
    interpret_multi_list_loop slice_fn rt.get (callFn rt) fuel es d acc off =
      (match interpAll rt fuel d es off with
       | .error e => .error e
       | .ok (vs, off') => .ok (acc ++ vs, off')) := by
  intro fuel es d acc off h
  rw [(genEq_all rt slice_fn hslice fuel).multiList _ _ _ _ h]
  cases interpAll rt fuel d es off <;> rfl

theorem gen_function_loop_eq : ∀ fuel es d acc off, Ast.i32OkL es = true →
    interpret_function_loop slice_fn rt.get (callFn rt) fuel es d acc off =
      (match interpAll rt fuel d es off with
       | .error e => .error e
       | .ok (vs, off') => .ok (acc ++ vs, off')) := by
  intro fuel es d acc off h
  rw [(genEq_all rt slice_fn hslice fuel).function _ _ _ _ h]
  cases interpAll rt fuel d es off <;> rfl

theorem gen_multi_hash_loop_eq : ∀ fuel kvs d acc off, Ast.i32OkK kvs = true →
    interpret_multi_hash_loop slice_fn rt.get (callFn rt) fuel kvs d acc off =
      interpKVs rt fuel d kvs acc off :=
  fun fuel => (genEq_all rt slice_fn hslice fuel).multiHash

end

/-! ### instantiation with the translated `slice` -/

/-- the translated `slice` on its proved domain (`len ≤ i32::MAX`, what `array.len() as i32` assumes) -/
def sliceGuarded : SliceFn := fun xs start stop step =>
  if (xs.length : Int) ≤ I32_MAX then slice_rs xs start stop step else sliceList xs start stop step

theorem sliceGuarded_eq (xs : List Val) (start stop : Option Int) (step : Int) (hstep : step ≠ 0)
    (hstart : OptInI32 start) (hstop : OptInI32 stop) :
    sliceGuarded xs start stop step = sliceList xs start stop step := by
  unfold sliceGuarded slice_rs
  split
  · exact gen_slice_eq _ xs start stop step (Nat.le_refl _) (by assumption) hstart hstop hstep
  · rfl

theorem gen_interpret_eq_guarded (rt : Registry) : ∀ fuel d a off, a.I32Ok = true →
    interpret sliceGuarded rt.get (callFn rt) fuel d a off = interp rt fuel d a off :=
  gen_interpret_eq_oracle rt sliceGuarded sliceGuarded_eq

/-- `GenEqIf` with `guard := True`, for the translated `slice` (`slice_rs`) -/
structure GenEqS (rt : Registry) (n : Nat) : Prop where
  interp : ∀ d a off, a.I32Ok = true → SlicesOk rt n d a off →
    interpret slice_rs rt.get (callFn rt) n d a off = interp rt n d a off
  proj : ∀ xs rhs acc off, rhs.I32Ok = true → SlicesOkEach rt n xs rhs off →
    interpret_projection_loop slice_rs rt.get (callFn rt) n xs rhs acc off
      = accRes acc (projectEach rt n xs rhs off)
  multiList : ∀ es d acc off, Ast.i32OkL es = true → SlicesOkAll rt n d es off →
    interpret_multi_list_loop slice_rs rt.get (callFn rt) n es d acc off
      = accRes acc (interpAll rt n d es off)
  function : ∀ es d acc off, Ast.i32OkL es = true → SlicesOkAll rt n d es off →
    interpret_function_loop slice_rs rt.get (callFn rt) n es d acc off
      = accRes acc (interpAll rt n d es off)
  multiHash : ∀ kvs d acc off, Ast.i32OkK kvs = true → SlicesOkKVs rt n d kvs off →
    interpret_multi_hash_loop slice_rs rt.get (callFn rt) n kvs d acc off
      = interpKVs rt n d kvs acc off

theorem genEqS_all (rt : Registry) (n : Nat) : GenEqS rt n :=
  have g := genEqIf_all rt slice_rs True
    (fun xs start stop step hz h1 h2 hl => gen_slice_eq _ xs start stop step (Nat.le_refl _) (hl trivial) h1 h2 hz) n
  ⟨fun d a off h hs => g.interp d a off h fun _ => hs, fun xs rhs acc off h hs => g.proj xs rhs acc off h fun _ => hs,
    fun es d acc off h hs => g.multiList es d acc off h fun _ => hs,
    fun es d acc off h hs => g.function es d acc off h fun _ => hs,
    fun kvs d acc off h hs => g.multiHash kvs d acc off h fun _ => hs⟩

theorem gen_interpret_eq (rt : Registry) : ∀ fuel d a off, a.I32Ok = true → SlicesOk rt fuel d a off →
    interpret slice_rs rt.get (callFn rt) fuel d a off = interp rt fuel d a off :=
  fun fuel => (genEqS_all rt fuel).interp


/-- `SlicesOk` is not vacuous -/
example : SlicesOk Registry.default 10 (.arr [.num (.pos 1), .num (.pos 2), .num (.pos 3)])
    (.projection 0 (.slice 0 (some 1) none 1) (.identity 0)) 0 := by
  have hsl : sliceList [Val.num (.pos 1), .num (.pos 2), .num (.pos 3)] (some 1) none 1
      = .ok [.num (.pos 2), .num (.pos 3)] := rfl
  simp [SlicesOk, SlicesOkEach, interp, I32_MAX, hsl]

/-! ### non-vacuity: the generated interpreter computes -/

section Examples

/-- the generated interpreter with the translated `slice`, the default runtime, offset 0 -/
abbrev runGen (fuel : Nat) (d : Val) (a : Ast) : ERes Val :=
  interpret slice_rs Registry.default.get (callFn Registry.default) fuel d a 0

/-- `[?@ > `1`]` on `[1, 2, 3]` -/
example : runGen 10 (.arr [.num (.pos 1), .num (.pos 2), .num (.pos 3)])
    (.projection 0 (.identity 0)
      (.condition 0 (.comparison 0 .gt (.identity 0) (.literal 0 (.num (.pos 1)))) (.identity 0)))
    = .ok (.arr [.num (.pos 2), .num (.pos 3)], 0) := by
  with_unfolding_all rfl

/-- `[?@]` on `[false, "a", null]` -/
example : runGen 10 (.arr [.bool false, .str "a", .null])
    (.projection 0 (.identity 0) (.condition 0 (.identity 0) (.identity 0)))
    = .ok (.arr [.str "a"], 0) := by
  with_unfolding_all rfl

/-- `length(@)` through `callFn` -/
example : runGen 10 (.arr [.null, .null]) (.function 7 "length" [.identity 0])
    = .ok (.num (.pos 2), 0) := by
  have hget : Registry.default.get "length" = some (.builtin .length) := by with_unfolding_all rfl
  have hcall : callFn Registry.default 9 (.builtin .length) [.arr [.null, .null]] 7 = .ok (.num (.pos 2), 7) := by
    simp [callFn, Builtin.sig, Sig.validate, Sig.validateArity, Sig.validateArgs, ArgT.isValid, anyValid, Val.type,
      Builtin.usesExpref, Builtin.pure]
  simp only [runGen, interpret, interpret_function_loop, hget, hcall, List.nil_append]

example : runGen 10 (.arr [.null, .null]) (.function 7 "nope" [.identity 0])
    = .error (.runtime (.unknownFunction "nope") 7) := by
  with_unfolding_all rfl

example : runGen 10 (.arr [.null, .null]) (.slice 5 none none 0)
    = .error (.runtime .invalidSlice 5) := by
  with_unfolding_all rfl

example : runGen 10 (.arr [.num (.pos 1), .num (.pos 2), .num (.pos 3)]) (.slice 0 (some 1) none 1)
    = .ok (.arr [.num (.pos 2), .num (.pos 3)], 0) := by
  with_unfolding_all rfl

/-- the hypothesis of the theorems holds of these trees -/
example : (Ast.projection 0 (.identity 0)
      (.condition 0 (.comparison 0 .gt (.identity 0) (.literal 0 (.num (.pos 1)))) (.slice 0 (some 1) none 1))).I32Ok
    = true := by decide
/-- and fails on an index the lexer cannot produce -/
example : (Ast.index 0 I32_MIN).I32Ok = false := by decide

end Examples

end JmesVerif

#print axioms JmesVerif.gen_flatten_loop_eq
#print axioms JmesVerif.gen_interpret_eq_oracle
#print axioms JmesVerif.gen_projection_loop_eq
#print axioms JmesVerif.gen_multi_list_loop_eq
#print axioms JmesVerif.gen_function_loop_eq
#print axioms JmesVerif.gen_multi_hash_loop_eq
#print axioms JmesVerif.sliceGuarded_eq
#print axioms JmesVerif.gen_interpret_eq_guarded
#print axioms JmesVerif.gen_interpret_eq
