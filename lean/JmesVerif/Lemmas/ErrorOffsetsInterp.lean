import JmesVerif.Lemmas.ErrorOffsets
import JmesVerif.Lemmas.Signature
/-!
# Where runtime errors point: the induction over the interpreter's mutual block

For a predicate `P : OKind → Nat → Prop` on (kind, offset) pairs: if every call / slice node of the
tree and of every expression reference held in the data satisfies `P`, then so does every
expression reference in the value returned, and every error is `EOk P rt`.
-/
namespace JmesVerif

section
variable (P : OKind → Nat → Prop)

/-- The induction hypothesis at fuel `n`, one field per function of the block.  The keys `keysTyped`
returns are only compared, never returned, so nothing is asked of them (`fun _ => True`): the
field is there for its errors. -/
structure LocStep (rt : Registry) (n : Nat) : Prop where
  interp : ∀ d a off, AOk P a → VOk P d → ROk P rt (VOk P) (interp rt n d a off)
  projectEach : ∀ xs a off, AOk P a → (∀ x ∈ xs, VOk P x) →
    ROk P rt (fun ys => ∀ y ∈ ys, VOk P y) (projectEach rt n xs a off)
  interpAll : ∀ d es off, (∀ e ∈ es, AOk P e) → VOk P d →
    ROk P rt (fun vs => ∀ v ∈ vs, VOk P v) (interpAll rt n d es off)
  interpKVs : ∀ d kvs acc off, (∀ p ∈ kvs, AOk P p.2) → VOk P d → (∀ p ∈ acc, VOk P p.2) →
    ROk P rt (fun m => ∀ p ∈ m, VOk P p.2) (interpKVs rt n d kvs acc off)
  mapExpref : ∀ xs a off, AOk P a → (∀ x ∈ xs, VOk P x) →
    ROk P rt (fun ys => ∀ y ∈ ys, VOk P y) (mapExpref rt n xs a off)
  keysTyped : ∀ xs a ty inv off, AOk P a → (∀ x ∈ xs, VOk P x) → (∃ b, CallAt P rt (.builtin b) off ∧ b.isBy = true) →
    ROk P rt (fun _ => True) (keysTyped rt n xs a ty inv off)
  callFn : ∀ f args off, (∀ v ∈ args, VOk P v) → CallAt P rt f off → ROk P rt (VOk P) (callFn rt n f args off)
  byExtreme : ∀ isMax xs a off, AOk P a → (∀ x ∈ xs, VOk P x) → (∃ b, CallAt P rt (.builtin b) off ∧ b.isBy = true) →
    ROk P rt (VOk P) (byExtreme rt n isMax xs a off)

theorem LocStep.zero (rt : Registry) : LocStep P rt 0 := by
  constructor <;> intros <;> simp [JmesVerif.interp, JmesVerif.projectEach, JmesVerif.interpAll,
    JmesVerif.interpKVs, JmesVerif.mapExpref, JmesVerif.keysTyped, JmesVerif.callFn, JmesVerif.byExtreme]

open Comp in
theorem ROk_lift {α : Type} {Q : α → Prop} {off : Nat} {x : Except EvalErr α} :
    ROk P rt Q (lift off x) ↔ Post (EOk P rt) Q x := by
  cases x <;> exact Iff.rfl

theorem ROk.bind {α β : Type} {Q : α → Prop} {R : β → Prop} {off : Nat} {x : Except EvalErr α}
    {f : α → Except EvalErr β} (hx : ROk P rt Q (Comp.lift off x))
    (hf : ∀ v, Q v → ROk P rt R (Comp.lift off (f v))) : ROk P rt R (Comp.lift off (x >>= f)) :=
  (ROk_lift P).2 (((ROk_lift P).1 hx).bind fun v hv => (ROk_lift P).1 (hf v hv))

theorem ROk.outcome {α : Type} {Q : α → Prop} {off : Nat} {r : ERes α} (h : ROk P rt Q r) :
    ROk P rt Q (Comp.lift off (outcome r)) := by
  rcases r with _ | ⟨_, _⟩ <;> exact h

section step
open Comp
variable {P} {rt : Registry} {n : Nat} (ih : LocStep P rt n)
include ih

theorem LocStep.ev (d : Val) (a : Ast) (off : Nat) (ha : AOk P a) (hd : VOk P d) :
    ROk P rt (VOk P) (lift off (ev rt n d a)) := (keep_all rt n).interp d a off ▸ ih.interp d a off ha hd
theorem LocStep.evEach (xs : List Val) (a : Ast) (off : Nat) (ha : AOk P a) (hx : ∀ x ∈ xs, VOk P x) :
    ROk P rt (fun ys => ∀ y ∈ ys, VOk P y) (lift off (evEach rt n xs a)) :=
  (keep_all rt n).projectEach xs a off ▸ ih.projectEach xs a off ha hx
theorem LocStep.evAll (d : Val) (es : List Ast) (off : Nat) (ha : ∀ e ∈ es, AOk P e) (hd : VOk P d) :
    ROk P rt (fun vs => ∀ v ∈ vs, VOk P v) (lift off (evAll rt n d es)) :=
  (keep_all rt n).interpAll d es off ▸ ih.interpAll d es off ha hd
theorem LocStep.evMap (xs : List Val) (a : Ast) (off : Nat) (ha : AOk P a) (hx : ∀ x ∈ xs, VOk P x) :
    ROk P rt (fun ys => ∀ y ∈ ys, VOk P y) (lift off (evMap rt n xs a)) :=
  (keep_all rt n).mapExpref xs a off ▸ ih.mapExpref xs a off ha hx

theorem interp_lstep (d : Val) (a : Ast) (off : Nat) (ha : AOk P a) (hd : VOk P d) :
    ROk P rt (VOk P) (interp rt (n+1) d a off) := by
  rw [interp_succ (keep_all rt n)]
  cases a with
  | field o name => exact (VOk_closed P).getField _ _ hd
  | identity o => exact hd
  | literal o w => exact ha
  | expref o a => exact ha
  | index o i =>
    cases d with
    | arr xs => exact (VOk_closed P).index _ _ ((VOk_arr ..).1 hd)
    | _ => exact VOk_null P
  | slice o st sp step =>
    simp only [AOk_slice] at ha
    simp only [evStep]
    split
    · exact ha
    · cases d with
      | arr xs =>
        dsimp only
        cases hs : sliceList xs st sp step with
        | ok ys => exact (VOk_arr ..).2 fun y hy => (VOk_arr ..).1 hd y (sliceList_mem _ _ _ _ _ hs y hy)
        | error _ => exact ⟨rfl, o, ha⟩
      | _ => exact VOk_null P
  | subexpr o l r =>
    simp only [AOk_subexpr] at ha
    exact (ih.ev d l off ha.1 hd).bind P fun v hv => ih.ev v r off ha.2 hv
  | or o l r | and o l r =>
    simp only [AOk_or, AOk_and] at ha
    refine (ih.ev d l off ha.1 hd).bind P fun v hv => ?_
    split
    · exact hv
    · exact ih.ev d r off ha.2 hd
  | not o a => exact (ih.ev d a off ha hd).bind P fun _ _ => VOk_bool P _
  | condition o p t =>
    simp only [AOk_condition] at ha
    refine (ih.ev d p off ha.1 hd).bind P fun c _ => ?_
    split
    · exact ih.ev d t off ha.2 hd
    · exact VOk_null P
  | comparison o c l r =>
    simp only [AOk_comparison] at ha
    refine (ih.ev d l off ha.1 hd).bind P fun lv _ => (ih.ev d r off ha.2 hd).bind P fun rv _ => ?_
    show VOk P (match Val.compare c lv rv with | some b => .bool b | none => .null)
    split
    · exact VOk_bool P _
    · exact VOk_null P
  | objectValues o a =>
    refine (ih.ev d a off ha hd).bind P fun v hv => ?_
    cases v with
    | obj kvs =>
      refine (VOk_arr ..).2 fun y hy => ?_
      obtain ⟨p, hp, rfl⟩ := List.mem_map.1 hy
      exact (VOk_obj ..).1 hv p hp
    | _ => exact VOk_null P
  | projection o l r =>
    simp only [AOk_projection] at ha
    refine (ih.ev d l off ha.1 hd).bind P fun v hv => ?_
    cases v with
    | arr xs => exact (ih.evEach xs r off ha.2 ((VOk_arr ..).1 hv)).bind P fun ys hys => (VOk_arr ..).2 hys
    | _ => exact VOk_null P
  | flatten o a =>
    refine (ih.ev d a off ha hd).bind P fun v hv => ?_
    cases v with
    | arr xs => exact (VOk_arr ..).2 ((VOk_closed P).flatten xs ((VOk_arr ..).1 hv))
    | _ => exact VOk_null P
  | multiList o es =>
    simp only [evStep]
    split
    · exact VOk_null P
    · exact (ih.evAll d es off ((AOk_multiList ..).1 ha) hd).bind P fun vs hvs => (VOk_arr ..).2 hvs
  | multiHash o kvs =>
    simp only [evStep]
    split
    · exact VOk_null P
    · exact ROk.bind P ((keep_all rt n).interpKVs .. ▸ ih.interpKVs d kvs [] off ((AOk_multiHash ..).1 ha) hd nofun)
        fun m hm => (VOk_obj ..).2 hm
  | function o name args =>
    simp only [AOk_function] at ha
    refine (ih.evAll d args off ha.2 hd).bind P fun vs hvs => ?_
    cases hf : rt.get name with
    | none => exact ⟨ha.1, hf⟩
    | some f => exact (ih.callFn f vs o hvs ⟨name, ha.1, hf⟩).outcome P

theorem LocStep.evKeys (xs : List Val) (a : Ast) (ty : JType) (inv off : Nat) (ha : AOk P a)
    (hx : ∀ x ∈ xs, VOk P x) (hoff : ∃ b, CallAt P rt (.builtin b) off ∧ b.isBy = true) :
    ROk P rt (fun _ => True) (lift off (evKeys rt n xs a ty inv off)) :=
  (keep_all rt n).keysTyped xs a ty inv off ▸ ih.keysTyped xs a ty inv off ha hx hoff

theorem projectEach_lstep (xs : List Val) (a : Ast) (off : Nat) (ha : AOk P a) (hx : ∀ x ∈ xs, VOk P x) :
    ROk P rt (fun ys => ∀ y ∈ ys, VOk P y) (projectEach rt (n+1) xs a off) := by
  rw [projectEach_succ (keep_all rt n)]
  cases xs with
  | nil => exact nofun
  | cons x rest =>
    rw [List.forall_mem_cons] at hx
    refine (ih.ev x a off ha hx.1).bind P fun v hv => (ih.evEach rest a off ha hx.2).bind P fun vs hvs => ?_
    show ∀ y ∈ (if v.isNull then vs else v :: vs), VOk P y
    split
    · exact hvs
    · exact List.forall_mem_cons.2 ⟨hv, hvs⟩

theorem mapExpref_lstep (xs : List Val) (a : Ast) (off : Nat) (ha : AOk P a) (hx : ∀ x ∈ xs, VOk P x) :
    ROk P rt (fun ys => ∀ y ∈ ys, VOk P y) (mapExpref rt (n+1) xs a off) := by
  rw [mapExpref_succ (keep_all rt n)]
  cases xs with
  | nil => exact nofun
  | cons x rest =>
    rw [List.forall_mem_cons] at hx
    exact (ih.ev x a off ha hx.1).bind P fun v hv => (ih.evMap rest a off ha hx.2).bind P fun vs hvs =>
      List.forall_mem_cons.2 ⟨hv, hvs⟩

theorem interpAll_lstep (d : Val) (es : List Ast) (off : Nat) (ha : ∀ e ∈ es, AOk P e) (hd : VOk P d) :
    ROk P rt (fun vs => ∀ v ∈ vs, VOk P v) (interpAll rt (n+1) d es off) := by
  rw [interpAll_succ (keep_all rt n)]
  cases es with
  | nil => exact nofun
  | cons e rest =>
    rw [List.forall_mem_cons] at ha
    exact (ih.ev d e off ha.1 hd).bind P fun v hv => (ih.evAll d rest off ha.2 hd).bind P fun vs hvs =>
      List.forall_mem_cons.2 ⟨hv, hvs⟩

theorem interpKVs_lstep (d : Val) (kvs : List (String × Ast)) (acc : List (String × Val)) (off : Nat)
    (ha : ∀ p ∈ kvs, AOk P p.2) (hd : VOk P d) (hacc : ∀ p ∈ acc, VOk P p.2) :
    ROk P rt (fun m => ∀ p ∈ m, VOk P p.2) (interpKVs rt (n+1) d kvs acc off) := by
  rw [interpKVs_succ (keep_all rt n)]
  rcases kvs with _ | ⟨⟨k, e⟩, rest⟩
  · exact hacc
  · rw [List.forall_mem_cons] at ha
    exact (ih.ev d e off ha.1 hd).bind P fun v hv =>
      (keep_all rt n).interpKVs .. ▸ ih.interpKVs d rest _ off ha.2 hd (forall_mem_insertKV hv hacc)

theorem keysTyped_lstep (xs : List Val) (a : Ast) (ty : JType) (inv off : Nat) (ha : AOk P a)
    (hx : ∀ x ∈ xs, VOk P x) (hoff : ∃ b, CallAt P rt (.builtin b) off ∧ b.isBy = true) :
    ROk P rt (fun _ => True) (keysTyped rt (n+1) xs a ty inv off) := by
  rw [keysTyped_succ (keep_all rt n)]
  cases xs with
  | nil => trivial
  | cons x rest =>
    rw [List.forall_mem_cons] at hx
    refine (ih.ev x a off ha hx.1).bind P fun v _ => ?_
    split
    · exact hoff
    · exact (ih.evKeys rest a ty (inv + 1) off ha hx.2 hoff).bind P fun _ _ => trivial

theorem keyLoop_lstep (x : Val) (rest : List Val) (a : Ast) (off : Nat) (expected : String)
    (f : Val → List Val → Val) (ha : AOk P a) (hx : ∀ y ∈ x :: rest, VOk P y)
    (hoff : ∃ b, CallAt P rt (.builtin b) off ∧ b.isBy = true) (hf : ∀ k0 ks, VOk P (f k0 ks)) :
    ROk P rt (VOk P) (lift off (keyLoop rt n x rest a off expected f)) := by
  rw [List.forall_mem_cons] at hx
  refine (ih.ev x a off ha hx.1).bind P fun k0 _ => ?_
  split
  · exact hoff
  · exact (ih.evKeys rest a k0.type 1 off ha hx.2 hoff).bind P fun ks _ => hf _ _

theorem byExtreme_lstep (isMax : Bool) (xs : List Val) (a : Ast) (off : Nat) (ha : AOk P a)
    (hx : ∀ x ∈ xs, VOk P x) (hoff : ∃ b, CallAt P rt (.builtin b) off ∧ b.isBy = true) :
    ROk P rt (VOk P) (byExtreme rt (n+1) isMax xs a off) := by
  rw [byExtreme_succ]
  cases xs with
  | nil => exact VOk_null P
  | cons x rest =>
    refine keyLoop_lstep ih x rest a off _ _ ha hx hoff fun k0 ks => hx _ (pick_mem _ ?_ ..)
    intro a b
    (repeat' split) <;> simp

end step

theorem validateArgs_err_kind (s : Sig) (off o : Nat) (r : RtErr) (vs : List Val) : ∀ k,
    s.validateArgs off k vs = .error (.runtime r o) → ∃ a b c, r = .invalidType a b c := by
  induction vs with
  | nil => intro k h; simp [Sig.validateArgs] at h
  | cons v vs ih =>
    intro k h
    rw [Sig.validateArgs] at h
    try simp only at h
    split at h
    · simp at h
    · split at h
      · exact ih _ h
      · simp only [Except.error.injEq, EvalErr.runtime.injEq] at h
        exact ⟨_, _, _, h.1.symm⟩

/-- the validator only raises arity and type errors -/
theorem validate_err_kind (s : Sig) (args : List Val) (off o : Nat) (r : RtErr)
    (h : s.validate args off = .error (.runtime r o)) :
    (∃ a b, r = .tooMany a b) ∨ (∃ a b, r = .notEnough a b) ∨ (∃ a b c, r = .invalidType a b c) := by
  unfold Sig.validate at h
  split at h
  · rename_i e' he
    simp only [Except.error.injEq] at h; subst h
    unfold Sig.validateArity at he
    simp only at he
    split at he
    · split at he
      · simp at he
      · simp only [Except.error.injEq, EvalErr.runtime.injEq] at he; exact .inr (.inl ⟨_, _, he.1.symm⟩)
    · split at he
      · simp at he
      · split at he
        · simp only [Except.error.injEq, EvalErr.runtime.injEq] at he; exact .inr (.inl ⟨_, _, he.1.symm⟩)
        · simp only [Except.error.injEq, EvalErr.runtime.injEq] at he; exact .inl ⟨_, _, he.1.symm⟩
  · exact .inr (.inr (validateArgs_err_kind s off o r args 0 h))

theorem validate_EOk (s : Sig) (args : List Val) (f : Fn) (off : Nat) (e : EvalErr) (hoff : CallAt P rt f off)
    (h : s.validate args off = .error e) : EOk P rt e := by
  obtain ⟨r, rfl⟩ := validate_error_offset s args off e h
  rcases validate_err_kind s args off off r h with ⟨a, b, rfl⟩ | ⟨a, b, rfl⟩ | ⟨a, b, c, rfl⟩ <;>
    exact ⟨f, hoff⟩

theorem callFn_lstep {rt : Registry} {n : Nat} (ih : LocStep P rt n) (f : Fn) (args : List Val) (off : Nat)
    (hargs : ∀ v ∈ args, VOk P v) (hoff : CallAt P rt f off) : ROk P rt (VOk P) (callFn rt (n+1) f args off) := by
  cases f with
  | custom id sig =>
    have hcust : VOk P (customResult id args) :=
      (VOk_obj ..).2 (List.forall_mem_cons.2 ⟨(VOk_arr ..).2 hargs, List.forall_mem_cons.2 ⟨VOk_num P _, nofun⟩⟩)
    cases sig with
    | none => rw [callFn]; exact hcust
    | some s =>
      rw [custom_guard]
      cases he : s.validate args off with
      | error e => exact validate_EOk P s args _ off e hoff he
      | ok u => exact hcust
  | builtin b =>
    rcases callFn_shape b args off with ⟨e, hv, he⟩ | ⟨hb, hv, hp⟩ | ⟨rfl, a, xs, rfl⟩ | ⟨hb, a, xs, rfl⟩
    · rw [he]; exact validate_EOk P _ args _ off e hoff hv
    · rw [hp]
      cases hp' : b.pure args with
      | error e =>
        rcases pure_error b args e hp' with ⟨msg, hm, rfl⟩ | ⟨m, rfl⟩
        · exact hm
        · exact absurd hp' (pure_no_panic b args off hv hb m)
      | ok v => exact (VOk_closed P).pure b args v hargs hp'
    all_goals
      have ha : AOk P a := hargs (.expref a) (by simp)
      have hx : ∀ x ∈ xs, VOk P x := (VOk_arr ..).1 (hargs (.arr xs) (by simp))
    · rw [callFn_map_eq]
      exact (ih.evMap xs a off ha hx).bind P fun vs hvs => (VOk_arr ..).2 hvs
    · rcases hb with rfl | rfl | rfl
      · rw [callFn_sortBy_eq]
        cases xs with
        | nil => exact (VOk_arr ..).2 nofun
        | cons x rest =>
          exact keyLoop_lstep ih x rest a off _ _ ha hx ⟨_, hoff, rfl⟩ fun k0 ks =>
            (VOk_arr ..).2 fun y hy => hx y (sortBy_mem _ _ y hy)
      · rw [callFn_maxBy]; exact ih.byExtreme true xs a off ha hx ⟨_, hoff, rfl⟩
      · rw [callFn_minBy]; exact ih.byExtreme false xs a off ha hx ⟨_, hoff, rfl⟩

theorem locStep_all (rt : Registry) : ∀ n, LocStep P rt n
  | 0 => LocStep.zero P rt
  | n + 1 =>
    have ih := locStep_all rt n
    ⟨interp_lstep ih, projectEach_lstep ih, interpAll_lstep ih, interpKVs_lstep ih, mapExpref_lstep ih,
     keysTyped_lstep ih, callFn_lstep P ih, byExtreme_lstep ih⟩
end

end JmesVerif
