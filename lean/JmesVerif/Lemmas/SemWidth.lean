import JmesVerif.Spec.Sem
import JmesVerif.Props.C07
import JmesVerif.Lemmas.SemJson
import JmesVerif.Lemmas.InsertKV
import JmesVerif.Lemmas.SemSafe
/-
A computable sufficient condition for `SliceSafe`: the *width* of a value is the largest member
count of any array or object inside it; `X.wb b` bounds the width of every value that arises
when evaluating `X` on a document of width ≤ `b`.  Only flatten can make arrays longer than the
widths present in its input (by at most squaring), literals and multi-selects contribute their
own sizes.
-/
namespace JmesVerif
open Spec

mutual
/-- every array and object inside has at most `n` members -/
def Val.Within (n : Nat) : Val → Prop
  | .arr xs => xs.length ≤ n ∧ valsWithin n xs
  | .obj kvs => kvs.length ≤ n ∧ kvsWithin n kvs
  | _ => True
def valsWithin (n : Nat) : List Val → Prop
  | [] => True
  | v :: vs => v.Within n ∧ valsWithin n vs
def kvsWithin (n : Nat) : List (String × Val) → Prop
  | [] => True
  | (_, v) :: r => v.Within n ∧ kvsWithin n r
end

mutual
/-- the largest member count of an array or object inside the value -/
def Val.width : Val → Nat
  | .arr xs => max xs.length (valsWidth xs)
  | .obj kvs => max kvs.length (kvsWidth kvs)
  | _ => 0
def valsWidth : List Val → Nat
  | [] => 0
  | v :: vs => max v.width (valsWidth vs)
def kvsWidth : List (String × Val) → Nat
  | [] => 0
  | (_, v) :: r => max v.width (kvsWidth r)
end

theorem valsWithin_iff {n : Nat} {xs : List Val} : valsWithin n xs ↔ ∀ x ∈ xs, x.Within n := by
  induction xs with
  | nil => simp [valsWithin]
  | cons x r ih => simp [valsWithin, ih]

theorem kvsWithin_iff {n : Nat} {kvs : List (String × Val)} :
    kvsWithin n kvs ↔ ∀ p ∈ kvs, p.2.Within n := by
  induction kvs with
  | nil => simp [kvsWithin]
  | cons p r ih => obtain ⟨k, v⟩ := p; simp [kvsWithin, ih]

theorem arr_within {n : Nat} {xs : List Val} :
    (Val.arr xs).Within n ↔ xs.length ≤ n ∧ ∀ x ∈ xs, x.Within n := by
  simp [Val.Within, valsWithin_iff]

theorem obj_within {n : Nat} {kvs : List (String × Val)} :
    (Val.obj kvs).Within n ↔ kvs.length ≤ n ∧ ∀ p ∈ kvs, p.2.Within n := by
  simp [Val.Within, kvsWithin_iff]

mutual
theorem Val.Within.mono {n m : Nat} (hnm : n ≤ m) : ∀ v : Val, v.Within n → v.Within m
  | .arr xs, h => ⟨Nat.le_trans h.1 hnm, valsWithin_mono hnm xs h.2⟩
  | .obj kvs, h => ⟨Nat.le_trans h.1 hnm, kvsWithin_mono hnm kvs h.2⟩
  | .null, _ => trivial
  | .bool _, _ => trivial
  | .num _, _ => trivial
  | .str _, _ => trivial
  | .expref _, _ => trivial
theorem valsWithin_mono {n m : Nat} (hnm : n ≤ m) : ∀ xs : List Val, valsWithin n xs → valsWithin m xs
  | [], _ => trivial
  | v :: vs, h => ⟨Val.Within.mono hnm v h.1, valsWithin_mono hnm vs h.2⟩
theorem kvsWithin_mono {n m : Nat} (hnm : n ≤ m) :
    ∀ kvs : List (String × Val), kvsWithin n kvs → kvsWithin m kvs
  | [], _ => trivial
  | (_, v) :: r, h => ⟨Val.Within.mono hnm v h.1, kvsWithin_mono hnm r h.2⟩
end

mutual
theorem Val.within_width : ∀ v : Val, v.Within v.width
  | .arr xs => ⟨Nat.le_max_left _ _, valsWithin_mono (Nat.le_max_right _ _) xs (valsWithin_width xs)⟩
  | .obj kvs => ⟨Nat.le_max_left _ _, kvsWithin_mono (Nat.le_max_right _ _) kvs (kvsWithin_width kvs)⟩
  | .null => trivial
  | .bool _ => trivial
  | .num _ => trivial
  | .str _ => trivial
  | .expref _ => trivial
theorem valsWithin_width : ∀ xs : List Val, valsWithin (valsWidth xs) xs
  | [] => trivial
  | v :: vs => ⟨Val.Within.mono (Nat.le_max_left _ _) v (Val.within_width v),
      valsWithin_mono (Nat.le_max_right _ _) vs (valsWithin_width vs)⟩
theorem kvsWithin_width : ∀ kvs : List (String × Val), kvsWithin (kvsWidth kvs) kvs
  | [] => trivial
  | (_, v) :: r => ⟨Val.Within.mono (Nat.le_max_left _ _) v (Val.within_width v),
      kvsWithin_mono (Nat.le_max_right _ _) r (kvsWithin_width r)⟩
end

theorem loopUp_len {α : Type} (xs : List α) (b step : Int) :
    ∀ (fuel : Nat) (i : Int) (r : List α), loopUp xs b step fuel i = .ok r → r.length < fuel
  | 0, _, _, h => by simp [loopUp] at h
  | fuel + 1, i, r, h => by
    simp only [loopUp] at h
    split at h
    · split at h
      · cases h
      · split at h
        · cases h
        · split at h
          · cases h; exact Nat.succ_lt_succ (loopUp_len xs b step fuel _ _ ‹_›)
          · cases h
    · cases h; exact Nat.zero_lt_succ _

theorem loopDown_len {α : Type} (xs : List α) (b step : Int) :
    ∀ (fuel : Nat) (i : Int) (r : List α), loopDown xs b step fuel i = .ok r → r.length < fuel
  | 0, _, _, h => by simp [loopDown] at h
  | fuel + 1, i, r, h => by
    simp only [loopDown] at h
    split at h
    · split at h
      · cases h
      · split at h
        · cases h
        · split at h
          · cases h; exact Nat.succ_lt_succ (loopDown_len xs b step fuel _ _ ‹_›)
          · cases h
    · cases h; exact Nat.zero_lt_succ _

theorem sliceList_len {α : Type} (xs : List α) (a b : Option Int) (c : Int) (r : List α)
    (h : sliceList xs a b c = .ok r) : r.length ≤ xs.length := by
  unfold sliceList at h
  simp only [] at h
  split at h
  · simp only [Except.ok.injEq] at h; subst h; simp
  · split at h
    · have := loopUp_len _ _ _ _ _ _ h; omega
    · have := loopDown_len _ _ _ _ _ _ h; omega

theorem pySlice_len {α : Type} (xs : List α) (a b : Option Int) (c : Int) (hc : c ≠ 0)
    (hlen : (xs.length : Int) ≤ I32_MAX) : (pySlice xs a b c).length ≤ xs.length :=
  sliceList_len xs a b c _ (C07_slice_eq_python xs a b c hc hlen)

theorem optMapM_len {f : Val → Option Val} :
    ∀ {xs ys : List Val}, Sem.optMapM f xs = some ys → ys.length = xs.length
  | [], ys, h => by simp [Sem.optMapM] at h; subst h; rfl
  | x :: r, ys, h => by
    simp only [Sem.optMapM] at h
    cases hfx : f x with
    | none => simp [hfx] at h
    | some v =>
      simp only [hfx] at h
      cases hm : Sem.optMapM f r with
      | none => simp [hm] at h
      | some zs =>
        simp only [hm, Option.map_some, Option.some.injEq] at h
        subst h
        simp [optMapM_len hm]

theorem dropNulls_len (ys : List Val) : (Sem.dropNulls ys).length ≤ ys.length := by
  unfold Sem.dropNulls; exact List.length_filter_le _ _

theorem values_len (kvs : List (String × Val)) : (Sem.values kvs).length = kvs.length := by
  simp [Sem.values]

theorem flatten1_len_aux {b : Nat} (hb : 1 ≤ b) :
    ∀ xs : List Val, (∀ x ∈ xs, x.Within b) → (Sem.flatten1 xs).length ≤ xs.length * b
  | [], _ => by simp [Sem.flatten1]
  | x :: r, h => by
    have ih := flatten1_len_aux hb r (fun y hy => h y (by simp [hy]))
    have hx := h x (by simp)
    cases x with
    | arr ys =>
      have := (arr_within.mp hx).1
      simp only [Sem.flatten1, List.length_append, List.length_cons, Nat.add_mul, Nat.one_mul]
      omega
    | _ =>
      simp only [Sem.flatten1, List.length_cons, Nat.add_mul, Nat.one_mul]
      omega

theorem flatten1_len {b : Nat} {xs : List Val} (h : (Val.arr xs).Within b) :
    (Sem.flatten1 xs).length ≤ b * b := by
  obtain ⟨hl, hx⟩ := arr_within.mp h
  by_cases hb : 1 ≤ b
  · exact Nat.le_trans (flatten1_len_aux hb xs hx) (Nat.mul_le_mul_right b hl)
  · have : xs = [] := by
      cases xs with
      | nil => rfl
      | cons => simp at hl; omega
    subst this; simp [Sem.flatten1]

theorem flatten1_within {b : Nat} {xs : List Val} (h : (Val.arr xs).Within b) :
    ∀ x ∈ Sem.flatten1 xs, x.Within b := by
  intro x hx
  have hh := (arr_within.mp h).2
  rcases mem_flatten1 hx with hx | ⟨ys, h1, h2⟩
  · exact hh x hx
  · exact (arr_within.mp (hh _ h1)).2 x h2

theorem values_within {b : Nat} {kvs : List (String × Val)} (h : (Val.obj kvs).Within b) :
    ∀ x ∈ Sem.values kvs, x.Within b := by
  intro x hx
  obtain ⟨p, hp, rfl⟩ := mem_values hx
  exact (obj_within.mp h).2 p hp

theorem field_within {b : Nat} {d : Val} (k : String) (hd : d.Within b) : (Sem.field d k).Within b := by
  cases d with
  | obj kvs =>
    simp only [Sem.field]
    cases h : Val.lookup k kvs with
    | none => trivial
    | some v => exact (obj_within.mp hd).2 _ (lookup_mem h)
  | _ => trivial

theorem index_within {b : Nat} {d : Val} (n : Int) (hd : d.Within b) : (Sem.index d n).Within b := by
  cases d with
  | arr xs =>
    simp only [Sem.index]
    cases h : pyIndex xs n with
    | none => trivial
    | some v => exact (arr_within.mp hd).2 _ (mem_pyIndex h)
  | _ => trivial

theorem cmpVal_within (W : Nat) (o : Cmp) (l r : Val) : (Sem.cmpVal o l r).Within W := by
  unfold Sem.cmpVal; cases Val.compare o l r <;> trivial

/-- the result of a projection over a list of at most `W` elements whose images are within `W` -/
theorem proj_within {f : Val → Option Val} {xs : List Val} {W : Nat} {v : Val}
    (hlen : xs.length ≤ W)
    (hf : ∀ x ∈ xs, ∀ y, f x = some y → y.Within W)
    (h : ((Sem.optMapM f xs).map fun ys => Val.arr (Sem.dropNulls ys)) = some v) :
    v.Within W := by
  cases hm : Sem.optMapM f xs with
  | none => simp [hm] at h
  | some ys =>
    simp only [hm, Option.map_some, Option.some.injEq] at h
    subst h
    refine arr_within.mpr ⟨?_, fun y hy => ?_⟩
    · have := dropNulls_len ys
      have := optMapM_len hm
      omega
    · obtain ⟨x, hx, hfx⟩ := optMapM_mem hm y (mem_dropNulls hy)
      exact hf x hx y hfx

mutual
/-- `h.wb b`: bound on the width of every value arising when `h` is evaluated on a document of
width ≤ `b` (and of the result) -/
def Nud.wb (b : Nat) : Nud → Nat
  | .lit v => max b v.width
  | .paren e | .not e => max b (e.wb b)
  | .mlist es => max (max b es.length) (exprsWb b es)
  | .mhash kvs => max (max b kvs.length) (kvsWb b kvs)
  | .wildIdx r | .star r | .slice _ r => max b (r.wb b)
  | .flatten r => max (max b (b * b)) (r.wb b)
  | .filter p r => max b (max (p.wb b) (r.wb b))
  | _ => b
/-- `b` bounds both the current node and the left value -/
def Led.wb (b : Nat) : Led → Nat
  | .dot dr => max b (dr.wb b)
  | .pipe e | .or e | .and e | .cmp _ e => max b (e.wb b)
  | .wildIdxL r | .dotStar r | .sliceL _ r => max b (r.wb b)
  | .flattenL r => max (max b (b * b)) (r.wb b)
  | .filterL p r => max b (max (p.wb b) (r.wb b))
  | _ => b
def Rhs.wb (b : Nat) : Rhs → Nat
  | .none => b
  | .dot dr => max b (dr.wb b)
  | .bracket e => max b (e.wb b)
def DotRhs.wb (b : Nat) : DotRhs → Nat
  | .mlist es => max (max b es.length) (exprsWb b es)
  | .expr e => max b (e.wb b)
def Expr.wb (b : Nat) : Expr → Nat
  | .mk h ls => ledsWb (h.wb b) ls
def ledsWb (b : Nat) : List Led → Nat
  | [] => b
  | l :: ls => ledsWb (l.wb b) ls
def exprsWb (b : Nat) : List Expr → Nat
  | [] => b
  | e :: es => max (e.wb b) (exprsWb b es)
def kvsWb (b : Nat) : List (Bool × String × Expr) → Nat
  | [] => b
  | (_, _, e) :: r => max (e.wb b) (kvsWb b r)
end

theorem Nud.le_wb (b : Nat) (h : Nud) : b ≤ h.wb b := by
  cases h <;> simp only [Nud.wb] <;> omega
theorem Led.le_wb (b : Nat) (l : Led) : b ≤ l.wb b := by
  cases l <;> simp only [Led.wb] <;> omega
theorem Rhs.le_wb (b : Nat) (r : Rhs) : b ≤ r.wb b := by
  cases r <;> simp only [Rhs.wb] <;> omega
theorem ledsWb_le : ∀ (ls : List Led) (b : Nat), b ≤ ledsWb b ls
  | [], b => by simp [ledsWb]
  | l :: ls, b => by
    simp only [ledsWb]
    exact Nat.le_trans (Led.le_wb b l) (ledsWb_le ls _)
theorem Expr.le_wb (b : Nat) : ∀ e : Expr, b ≤ e.wb b
  | .mk h ls => by
    simp only [Expr.wb]
    exact Nat.le_trans (Nud.le_wb b h) (ledsWb_le ls _)

/-- the cap: `i32::MAX` as a natural number -/
abbrev CAP : Nat := 2147483647

theorem cap_int {n : Nat} (h : n ≤ CAP) : (n : Int) ≤ I32_MAX := by
  unfold I32_MAX; unfold CAP at h; omega

/-! ### evaluation stays within the bound, hence every slice is safe

Every step of the induction has the shape `S ∧ ∀ v, o = some v → v.Within W`: the slices met while
computing `o` are safe, and its value stays within the bound.  The lemmas below say how the
combinators of the semantics build such a pair from the pairs of their parts; `safe`, `f`, `o` stand
for the safety predicate and the evaluator of a sub-term, so the same lemmas serve `Sem` and
`SemFull`. -/

theorem mono_w {S : Prop} {o : Option Val} {b w : Nat} (ih : w ≤ CAP → S ∧ ∀ v, o = some v → v.Within w)
    (hb : max b w ≤ CAP) : S ∧ ∀ v, o = some v → v.Within (max b w) :=
  have ih := ih (Nat.le_trans (Nat.le_max_right b w) hb)
  ⟨ih.1, fun v hv => Val.Within.mono (Nat.le_max_right b w) v (ih.2 v hv)⟩

/-- `!e`, `l <op> e`: the result is a scalar -/
theorem map_w {S Q : Prop} {o : Option Val} {g : Val → Val} {b w : Nat} (ih : w ≤ CAP → S ∧ Q)
    (hg : ∀ x, (g x).Within (max b w)) (hb : max b w ≤ CAP) :
    S ∧ ∀ v, o.map g = some v → v.Within (max b w) := by
  refine ⟨(ih (Nat.le_trans (Nat.le_max_right b w) hb)).1, fun v hv => ?_⟩
  cases o <;> simp at hv
  subst hv; exact hg _

/-- `l || e`, `l && e`: the left value, or the right operand evaluated only in case `P` -/
theorem orand_w {S P : Prop} {c : Bool} {lv : Val} {o : Option Val} {b w : Nat}
    (ih : w ≤ CAP → S ∧ ∀ v, o = some v → v.Within w) (hl : lv.Within b) (hb : max b w ≤ CAP) :
    (P → S) ∧ ∀ v, (if c then some lv else o) = some v → v.Within (max b w) := by
  have ih := mono_w ih hb
  refine ⟨fun _ => ih.1, fun v hv => ?_⟩
  split at hv
  · cases hv; exact Val.Within.mono (Nat.le_max_left b w) _ hl
  · exact ih.2 v hv

/-- a multi-select list of `n` members -/
theorem mlist_w {S : Prop} {o : Option (List Val)} {d : Val} {b n w : Nat}
    (ih : w ≤ CAP → S ∧ ∀ vs, o = some vs → vs.length = n ∧ ∀ v ∈ vs, v.Within w)
    (hb : max (max b n) w ≤ CAP) :
    (d.isNull = false → S) ∧
    ∀ v : Val, (if d.isNull then some .null else o.map .arr) = some v → v.Within (max (max b n) w) := by
  have ih := ih (Nat.le_trans (Nat.le_max_right _ w) hb)
  refine ⟨fun _ => ih.1, fun v hv => ?_⟩
  split at hv
  · cases hv; trivial
  · cases ho : o <;> simp [ho] at hv
    subst hv
    obtain ⟨h1, h2⟩ := ih.2 _ ho
    exact arr_within.mpr ⟨by omega, fun x hx => Val.Within.mono (Nat.le_max_right _ w) x (h2 x hx)⟩

/-- a list of expressions: the head, then the rest -/
theorem cons_w {S1 S2 : Prop} {o : Option Val} {os : Option (List Val)} {n w ws : Nat}
    (ih : w ≤ CAP → S1 ∧ ∀ v, o = some v → v.Within w)
    (ihs : ws ≤ CAP → S2 ∧ ∀ vs, os = some vs → vs.length = n ∧ ∀ v ∈ vs, v.Within ws)
    (hb : max w ws ≤ CAP) :
    (S1 ∧ S2) ∧ ∀ vs, (match (generalizing := false) o with | none => none | some v => os.map (v :: ·)) = some vs →
      vs.length = n + 1 ∧ ∀ v ∈ vs, v.Within (max w ws) := by
  have ih := ih (Nat.le_trans (Nat.le_max_left w ws) hb)
  have ihs := ihs (Nat.le_trans (Nat.le_max_right w ws) hb)
  refine ⟨⟨ih.1, ihs.1⟩, fun vs hv => ?_⟩
  cases ho : o with
  | none => simp [ho] at hv
  | some v =>
    cases hos : os with
    | none => simp [ho, hos] at hv
    | some us =>
      simp only [ho, hos, Option.map_some, Option.some.injEq] at hv
      subst hv
      obtain ⟨h1, h2⟩ := ihs.2 us hos
      refine ⟨by simp [h1], fun x hx => ?_⟩
      rcases List.mem_cons.mp hx with rfl | hx
      · exact Val.Within.mono (Nat.le_max_left w ws) _ (ih.2 _ ho)
      · exact Val.Within.mono (Nat.le_max_right w ws) _ (h2 x hx)

/-- the members of a multi-select hash: the value of the first goes into the accumulator `acc`,
then the rest (`kv`); every bound `W` above those of the members will do -/
theorem kvcons_w {S1 S2 : Prop} {o : Option Val} {k : String}
    {kv : List (String × Val) → Option (List (String × Val))} {n w ws : Nat}
    (ih : w ≤ CAP → S1 ∧ ∀ v, o = some v → v.Within w)
    (ihs : ws ≤ CAP → S2 ∧ ∀ (W : Nat) (acc m : List (String × Val)), ws ≤ W →
      (∀ p ∈ acc, p.2.Within W) → kv acc = some m →
      m.length ≤ acc.length + n ∧ ∀ p ∈ m, p.2.Within W)
    (hb : max w ws ≤ CAP) :
    (S1 ∧ S2) ∧ ∀ (W : Nat) (acc m : List (String × Val)), max w ws ≤ W →
      (∀ p ∈ acc, p.2.Within W) →
      (match (generalizing := false) o with | none => none | some v => kv (insertKV k v acc)) = some m →
      m.length ≤ acc.length + (n + 1) ∧ ∀ p ∈ m, p.2.Within W := by
  have ih := ih (Nat.le_trans (Nat.le_max_left w ws) hb)
  have ihs := ihs (Nat.le_trans (Nat.le_max_right w ws) hb)
  refine ⟨⟨ih.1, ihs.1⟩, fun W acc m hW hacc hm => ?_⟩
  cases ho : o with
  | none => simp [ho] at hm
  | some v =>
    simp only [ho] at hm
    obtain ⟨h1, h2⟩ := ihs.2 W _ m (by omega)
      (forall_mem_insertKV (Val.Within.mono (by omega) _ (ih.2 _ ho)) hacc) hm
    have := insertKV_len k v acc
    exact ⟨by omega, h2⟩

/-- a multi-select hash of `n` members -/
theorem mhash_w {S : Prop} {kv : List (String × Val) → Option (List (String × Val))} {d : Val}
    {b n ws : Nat}
    (ih : ws ≤ CAP → S ∧ ∀ (W : Nat) (acc m : List (String × Val)), ws ≤ W →
      (∀ p ∈ acc, p.2.Within W) → kv acc = some m →
      m.length ≤ acc.length + n ∧ ∀ p ∈ m, p.2.Within W) (hb : max (max b n) ws ≤ CAP) :
    (d.isNull = false → S) ∧
    ∀ v : Val, (if d.isNull then some .null else (kv []).map .obj) = some v →
      v.Within (max (max b n) ws) := by
  have ih := ih (Nat.le_trans (Nat.le_max_right _ ws) hb)
  refine ⟨fun _ => ih.1, fun v hv => ?_⟩
  split at hv
  · cases hv; trivial
  · cases h : kv [] <;> simp [h] at hv
    subst hv
    obtain ⟨h1, h2⟩ := ih.2 _ [] _ (Nat.le_max_right _ ws) (by simp) h
    simp only [List.length_nil, Nat.zero_add] at h1
    exact obj_within.mpr ⟨by omega, h2⟩

/-- head then tail: `nud` then `leds`, one `led` then the remaining ones -/
theorem seq_w {S1 : Prop} {S2 : Val → Prop} {o : Option Val} {k : Val → Option Val} {w W : Nat}
    (h1 : w ≤ CAP → S1 ∧ ∀ v, o = some v → v.Within w)
    (h2 : ∀ v, v.Within w → W ≤ CAP → S2 v ∧ ∀ u, k v = some u → u.Within W)
    (hw : w ≤ W) (hb : W ≤ CAP) :
    (S1 ∧ ∀ v, o = some v → S2 v) ∧
    ∀ u : Val, (match o with | none => none | some v => k v) = some u → u.Within W := by
  have h1 := h1 (Nat.le_trans hw hb)
  refine ⟨⟨h1.1, fun v hv => (h2 v (h1.2 v hv) hb).1⟩, fun u hu => ?_⟩
  cases ho : o with
  | none => simp [ho] at hu
  | some v => simp only [ho] at hu; exact (h2 v (h1.2 v ho) hb).2 u hu

/-- a projection over the elements `sel xs` of an array `xs` (all of them, its flattening, a
slice), of which there are at most `L` -/
theorem arrProj_w {safe : Val → Prop} {f : Val → Option Val} {sel : List Val → List Val}
    {b w L : Nat} {lv : Val}
    (ih : ∀ x : Val, x.Within b → w ≤ CAP → safe x ∧ ∀ v, f x = some v → v.Within w)
    (hsel : ∀ xs, lv = .arr xs → (sel xs).length ≤ L ∧ ∀ x ∈ sel xs, x.Within b)
    (hb : max L w ≤ CAP) :
    (∀ xs, lv = .arr xs → ∀ x ∈ sel xs, safe x) ∧
    ∀ v, (match lv with
      | .arr xs => (Sem.optMapM f (sel xs)).map fun ys => Val.arr (Sem.dropNulls ys)
      | _ => some .null) = some v → v.Within (max L w) := by
  have ih := fun x hx => ih x hx (Nat.le_trans (Nat.le_max_right L w) hb)
  refine ⟨fun xs h x hx => (ih x ((hsel xs h).2 x hx)).1, fun v hv => ?_⟩
  cases lv with
  | arr xs =>
    obtain ⟨h1, h2⟩ := hsel xs rfl
    exact proj_within (Nat.le_trans h1 (Nat.le_max_left L w))
      (fun x hx y hy => Val.Within.mono (Nat.le_max_right L w) y ((ih x (h2 x hx)).2 y hy)) hv
  | _ => cases hv; trivial

/-- the elements of an array within `b` -/
theorem arr_sel {b : Nat} {lv : Val} (hlv : lv.Within b) :
    ∀ xs, lv = .arr xs → (id xs).length ≤ b ∧ ∀ x ∈ id xs, x.Within b :=
  fun _ h => arr_within.mp (h ▸ hlv)

theorem flatten_sel {b : Nat} {lv : Val} (hlv : lv.Within b) :
    ∀ xs, lv = .arr xs →
      (Sem.flatten1 xs).length ≤ max b (b * b) ∧ ∀ x ∈ Sem.flatten1 xs, x.Within b :=
  fun _ h => ⟨Nat.le_trans (flatten1_len (h ▸ hlv)) (Nat.le_max_right _ _), flatten1_within (h ▸ hlv)⟩

/-- a slice projection: the array has at most `b ≤ i32::MAX` elements, so the slice is safe -/
theorem sliceProj_w {safe : Val → Prop} {f : Val → Option Val} {b w : Nat} {lv : Val}
    {lo hi : Option Int} {step : Int}
    (ih : ∀ x : Val, x.Within b → w ≤ CAP → safe x ∧ ∀ v, f x = some v → v.Within w)
    (hlv : lv.Within b) (hb : max b w ≤ CAP) :
    (step ≠ 0 → ∀ xs, lv = .arr xs →
      (xs.length : Int) ≤ I32_MAX ∧ ∀ x ∈ pySlice xs lo hi step, safe x) ∧
    ∀ v, (if step = 0 then none else
      match lv with
      | .arr xs => (Sem.optMapM f (pySlice xs lo hi step)).map fun ys => Val.arr (Sem.dropNulls ys)
      | _ => some .null) = some v → v.Within (max b w) := by
  by_cases h0 : step = 0
  · exact ⟨fun hne => absurd h0 hne, fun v hv => by simp [h0] at hv⟩
  · have hlen : ∀ xs, lv = .arr xs → (xs.length : Int) ≤ I32_MAX := fun xs h =>
      cap_int (Nat.le_trans (arr_within.mp (h ▸ hlv)).1 (Nat.le_trans (Nat.le_max_left b w) hb))
    have := arrProj_w (sel := fun xs => pySlice xs lo hi step) ih (fun xs h =>
      ⟨Nat.le_trans (pySlice_len xs lo hi step h0 (hlen xs h)) (arr_within.mp (h ▸ hlv)).1,
       fun x hx => (arr_within.mp (h ▸ hlv)).2 x (mem_pySlice hx)⟩) hb
    simp only [h0, if_false]
    exact ⟨fun _ xs h => ⟨hlen xs h, this.1 xs h⟩, this.2⟩

/-- `*`: a projection over the values of an object -/
theorem objProj_w {safe : Val → Prop} {f : Val → Option Val} {b w : Nat} {lv : Val}
    (ih : ∀ x : Val, x.Within b → w ≤ CAP → safe x ∧ ∀ v, f x = some v → v.Within w)
    (hlv : lv.Within b) (hb : max b w ≤ CAP) :
    (∀ m, lv = .obj m → ∀ x ∈ Sem.values m, safe x) ∧
    ∀ v, (match lv with
      | .obj m => (Sem.optMapM f (Sem.values m)).map fun ys => Val.arr (Sem.dropNulls ys)
      | _ => some .null) = some v → v.Within (max b w) := by
  have ih := fun x hx => ih x hx (Nat.le_trans (Nat.le_max_right b w) hb)
  refine ⟨fun m h x hx => (ih x (values_within (h ▸ hlv) x hx)).1, fun v hv => ?_⟩
  cases lv with
  | obj m =>
    exact proj_within (by rw [values_len]; exact Nat.le_trans (obj_within.mp hlv).1 (Nat.le_max_left b w))
      (fun x hx y hy => Val.Within.mono (Nat.le_max_right b w) y ((ih x (values_within hlv x hx)).2 y hy)) hv
  | _ => cases hv; trivial

/-- the body of a filter projection: the predicate, then the right-hand side where it holds -/
theorem filt_w {safeP safeR Q : Val → Prop} {g f : Val → Option Val} {b wp w : Nat}
    (ihp : ∀ x : Val, x.Within b → wp ≤ CAP → safeP x ∧ Q x)
    (ih : ∀ x : Val, x.Within b → w ≤ CAP → safeR x ∧ ∀ v, f x = some v → v.Within w) (x : Val)
    (hx : x.Within b) (hb : max wp w ≤ CAP) :
    (safeP x ∧ ∀ c, g x = some c → Sem.truthy c = true → safeR x) ∧
    ∀ v, (match g x with
      | none => none
      | some c => if Sem.truthy c then f x else some .null) = some v → v.Within (max wp w) := by
  have ih := mono_w (b := wp) (ih x hx) hb
  refine ⟨⟨(ihp x hx (Nat.le_trans (Nat.le_max_left wp w) hb)).1, fun _ _ _ => ih.1⟩, fun v hv => ?_⟩
  cases hp : g x with
  | none => simp [hp] at hv
  | some c =>
    simp only [hp] at hv
    split at hv
    · exact ih.2 v hv
    · cases hv; trivial

mutual
theorem nud_w : ∀ (h : Nud) (b : Nat) (d : Val), d.Within b → h.wb b ≤ CAP →
    SliceSafe.nud d h ∧ ∀ v, Sem.nud d h = some v → v.Within (h.wb b)
  | .at, b, d, hd, _ => ⟨trivial, fun v hv => by cases hv; exact hd⟩
  | .field s, b, d, hd, _ => ⟨trivial, fun v hv => by cases hv; exact field_within s hd⟩
  | .qfield s, b, d, hd, _ => ⟨trivial, fun v hv => by cases hv; exact field_within s hd⟩
  | .idx n, b, d, hd, _ => ⟨trivial, fun v hv => by cases hv; exact index_within n hd⟩
  | .call _ _, b, d, hd, _ => ⟨trivial, fun v hv => nomatch hv⟩
  | .expref _, b, d, hd, _ => ⟨trivial, fun v hv => nomatch hv⟩
  | .lit w, b, d, hd, _ => ⟨trivial, fun v hv => by
      cases hv; exact Val.Within.mono (Nat.le_max_right _ _) _ (Val.within_width _)⟩
  | .paren e, b, d, hd, hb => mono_w (expr_w e b d hd) hb
  | .not e, b, d, hd, hb => map_w (expr_w e b d hd) (fun _ => trivial) hb
  | .mlist es, b, d, hd, hb => mlist_w (exprs_w es b d hd) hb
  | .mhash kvs, b, d, hd, hb => mhash_w (kvs_w kvs b d hd) hb
  | .wildIdx r, b, d, hd, hb => arrProj_w (rhs_w r b) (arr_sel hd) hb
  | .star r, b, d, hd, hb => objProj_w (rhs_w r b) hd hb
  | .flatten r, b, d, hd, hb => arrProj_w (rhs_w r b) (flatten_sel hd) hb
  | .slice h r, b, d, hd, hb => sliceProj_w (rhs_w r b) hd hb
  | .filter p r, b, d, hd, hb => arrProj_w (filt_w (expr_w p b) (rhs_w r b)) (arr_sel hd) hb
theorem led_w : ∀ (l : Led) (b : Nat) (d lv : Val), d.Within b → lv.Within b → l.wb b ≤ CAP →
    SliceSafe.led d lv l ∧ ∀ v, Sem.led d lv l = some v → v.Within (l.wb b)
  | .callDev _, b, d, lv, hd, hl, _ => ⟨trivial, fun v hv => nomatch hv⟩
  | .index n, b, d, lv, hd, hl, _ => ⟨trivial, fun v hv => by cases hv; exact index_within n hl⟩
  | .dot dr, b, d, lv, hd, hl, hb => mono_w (dot_w dr b lv hl) hb
  | .pipe e, b, d, lv, hd, hl, hb => mono_w (expr_w e b lv hl) hb
  | .or e, b, d, lv, hd, hl, hb => orand_w (expr_w e b d hd) hl hb
  | .and e, b, d, lv, hd, hl, hb => orand_w (expr_w e b d hd) hl hb
  | .cmp o e, b, d, lv, hd, hl, hb => map_w (expr_w e b d hd) (fun _ => cmpVal_within _ _ _ _) hb
  | .wildIdxL r, b, d, lv, hd, hl, hb => arrProj_w (rhs_w r b) (arr_sel hl) hb
  | .dotStar r, b, d, lv, hd, hl, hb => objProj_w (rhs_w r b) hl hb
  | .flattenL r, b, d, lv, hd, hl, hb => arrProj_w (rhs_w r b) (flatten_sel hl) hb
  | .sliceL h r, b, d, lv, hd, hl, hb => sliceProj_w (rhs_w r b) hl hb
  | .filterL p r, b, d, lv, hd, hl, hb => arrProj_w (filt_w (expr_w p b) (rhs_w r b)) (arr_sel hl) hb
theorem rhs_w : ∀ (r : Rhs) (b : Nat) (el : Val), el.Within b → r.wb b ≤ CAP →
    SliceSafe.rhs el r ∧ ∀ v, Sem.rhs el r = some v → v.Within (r.wb b)
  | .none, b, el, hel, _ => ⟨trivial, fun v hv => by cases hv; exact hel⟩
  | .dot dr, b, el, hel, hb => mono_w (dot_w dr b el hel) hb
  | .bracket e, b, el, hel, hb => mono_w (expr_w e b el hel) hb
theorem dot_w : ∀ (dr : DotRhs) (b : Nat) (el : Val), el.Within b → dr.wb b ≤ CAP →
    SliceSafe.dot el dr ∧ ∀ v, Sem.dot el dr = some v → v.Within (dr.wb b)
  | .mlist es, b, el, hel, hb => mlist_w (exprs_w es b el hel) hb
  | .expr e, b, el, hel, hb => mono_w (expr_w e b el hel) hb
theorem expr_w : ∀ (e : Expr) (b : Nat) (d : Val), d.Within b → e.wb b ≤ CAP →
    SliceSafe.expr d e ∧ ∀ v, Sem.expr d e = some v → v.Within (e.wb b)
  | .mk h ls, b, d, hd, hb =>
    seq_w (nud_w h b d hd) (fun v => leds_w ls (h.wb b) d v (Val.Within.mono (Nud.le_wb b h) d hd))
      (ledsWb_le ls _) hb
theorem leds_w : ∀ (ls : List Led) (b : Nat) (d lv : Val), d.Within b → lv.Within b →
    ledsWb b ls ≤ CAP →
    SliceSafe.leds d lv ls ∧ ∀ v, Sem.leds d lv ls = some v → v.Within (ledsWb b ls)
  | [], b, d, lv, hd, hl, _ => ⟨trivial, fun v hv => by cases hv; exact hl⟩
  | l :: ls, b, d, lv, hd, hl, hb =>
    seq_w (led_w l b d lv hd hl) (fun v => leds_w ls (l.wb b) d v (Val.Within.mono (Led.le_wb b l) d hd))
      (ledsWb_le ls _) hb
theorem exprs_w : ∀ (es : List Expr) (b : Nat) (d : Val), d.Within b → exprsWb b es ≤ CAP →
    SliceSafe.exprs d es ∧ ∀ vs, Sem.exprs d es = some vs →
      vs.length = es.length ∧ ∀ v ∈ vs, v.Within (exprsWb b es)
  | [], b, d, hd, _ => ⟨trivial, fun vs hv => by cases hv; simp⟩
  | e :: es, b, d, hd, hb => cons_w (expr_w e b d hd) (exprs_w es b d hd) hb
theorem kvs_w : ∀ (kvs : List (Bool × String × Expr)) (b : Nat) (d : Val), d.Within b →
    kvsWb b kvs ≤ CAP →
    SliceSafe.kvs d kvs ∧ ∀ (W : Nat) (acc m : List (String × Val)), kvsWb b kvs ≤ W →
      (∀ p ∈ acc, p.2.Within W) → Sem.kvs' d kvs acc = some m →
      m.length ≤ acc.length + kvs.length ∧ ∀ p ∈ m, p.2.Within W
  | [], b, d, hd, _ => ⟨trivial, fun W acc m _ hacc hm => by cases hm; exact ⟨Nat.le_refl _, hacc⟩⟩
  | (_, k, e) :: r, b, d, hd, hb => kvcons_w (expr_w e b d hd) (kvs_w r b d hd) hb
end

/-! ### flatten-free expressions: the bound is just "everything is small" -/

mutual
theorem Val.width_le {n : Nat} : ∀ v : Val, v.Within n → v.width ≤ n
  | .arr xs, h => by
    simp only [Val.width]; have := h.1; have := valsWidth_le xs h.2; omega
  | .obj kvs, h => by
    simp only [Val.width]; have := h.1; have := kvsWidth_le kvs h.2; omega
  | .null, _ => Nat.zero_le _
  | .bool _, _ => Nat.zero_le _
  | .num _, _ => Nat.zero_le _
  | .str _, _ => Nat.zero_le _
  | .expref _, _ => Nat.zero_le _
theorem valsWidth_le {n : Nat} : ∀ xs : List Val, valsWithin n xs → valsWidth xs ≤ n
  | [], _ => Nat.zero_le _
  | v :: vs, h => by
    simp only [valsWidth]; have := Val.width_le v h.1; have := valsWidth_le vs h.2; omega
theorem kvsWidth_le {n : Nat} : ∀ kvs : List (String × Val), kvsWithin n kvs → kvsWidth kvs ≤ n
  | [], _ => Nat.zero_le _
  | (_, v) :: r, h => by
    simp only [kvsWidth]; have := Val.width_le v h.1; have := kvsWidth_le r h.2; omega
end

/-- arrays and objects have at most `i32::MAX` members, hereditarily -/
def Val.Small (v : Val) : Prop := v.Within CAP

mutual
/-- every literal is `Small` and every multi-select has at most `i32::MAX` members -/
def Nud.Small : Nud → Prop
  | .lit v => v.Small
  | .call _ args => exprsSmall args
  | .star r | .slice _ r | .wildIdx r | .flatten r => r.Small
  | .mlist es => es.length ≤ CAP ∧ exprsSmall es
  | .mhash kvs => kvs.length ≤ CAP ∧ kvsSmall kvs
  | .not e | .paren e | .expref e => e.Small
  | .filter p r => p.Small ∧ r.Small
  | _ => True
def Led.Small : Led → Prop
  | .dotStar r | .sliceL _ r | .wildIdxL r | .flattenL r => r.Small
  | .dot d => d.Small
  | .or e | .and e | .pipe e | .cmp _ e => e.Small
  | .filterL p r => p.Small ∧ r.Small
  | .callDev args => exprsSmall args
  | .index _ => True
def Rhs.Small : Rhs → Prop
  | .none => True
  | .dot d => d.Small
  | .bracket e => e.Small
def DotRhs.Small : DotRhs → Prop
  | .mlist es => es.length ≤ CAP ∧ exprsSmall es
  | .expr e => e.Small
def Expr.Small : Expr → Prop
  | .mk h ls => h.Small ∧ ledsSmall ls
def ledsSmall : List Led → Prop
  | [] => True
  | l :: ls => l.Small ∧ ledsSmall ls
def exprsSmall : List Expr → Prop
  | [] => True
  | e :: es => e.Small ∧ exprsSmall es
def kvsSmall : List (Bool × String × Expr) → Prop
  | [] => True
  | (_, _, e) :: r => e.Small ∧ kvsSmall r
end

mutual
/-- the expression contains no flatten (`[]`) -/
def Nud.flattenFree : Nud → Bool
  | .flatten _ => false
  | .call _ args => exprsFlattenFree args
  | .star r | .slice _ r | .wildIdx r => r.flattenFree
  | .mlist es => exprsFlattenFree es
  | .mhash kvs => kvsFlattenFree kvs
  | .not e | .paren e | .expref e => e.flattenFree
  | .filter p r => p.flattenFree && r.flattenFree
  | _ => true
def Led.flattenFree : Led → Bool
  | .flattenL _ => false
  | .dotStar r | .sliceL _ r | .wildIdxL r => r.flattenFree
  | .dot d => d.flattenFree
  | .or e | .and e | .pipe e | .cmp _ e => e.flattenFree
  | .filterL p r => p.flattenFree && r.flattenFree
  | .callDev args => exprsFlattenFree args
  | .index _ => true
def Rhs.flattenFree : Rhs → Bool
  | .none => true
  | .dot d => d.flattenFree
  | .bracket e => e.flattenFree
def DotRhs.flattenFree : DotRhs → Bool
  | .mlist es => exprsFlattenFree es
  | .expr e => e.flattenFree
def Expr.flattenFree : Expr → Bool
  | .mk h ls => h.flattenFree && ledsFlattenFree ls
def ledsFlattenFree : List Led → Bool
  | [] => true
  | l :: ls => l.flattenFree && ledsFlattenFree ls
def exprsFlattenFree : List Expr → Bool
  | [] => true
  | e :: es => e.flattenFree && exprsFlattenFree es
def kvsFlattenFree : List (Bool × String × Expr) → Bool
  | [] => true
  | (_, _, e) :: r => e.flattenFree && kvsFlattenFree r
end

theorem max_cap2 {a w : Nat} (ha : a = CAP) (h : w = CAP) : max a w = CAP := by omega

theorem max_cap {w : Nat} (h : w = CAP) : max CAP w = CAP := max_cap2 rfl h

theorem max_cap_len {n w : Nat} (hn : n ≤ CAP) (h : w = CAP) : max (max CAP n) w = CAP := by omega

mutual
theorem Nud.wb_cap : ∀ h : Nud, h.Small → h.flattenFree = true → h.wb CAP = CAP
  | .at, _, _ => rfl
  | .field _, _, _ => rfl
  | .qfield _, _, _ => rfl
  | .idx _, _, _ => rfl
  | .call _ _, _, _ => rfl
  | .expref _, _, _ => rfl
  | .lit v, hs, _ => Nat.max_eq_left (Val.width_le v hs)
  | .paren e, hs, hf => max_cap (Expr.wb_cap e hs hf)
  | .not e, hs, hf => max_cap (Expr.wb_cap e hs hf)
  | .mlist es, hs, hf => max_cap_len hs.1 (exprsWb_cap es hs.2 hf)
  | .mhash kvs, hs, hf => max_cap_len hs.1 (kvsWb_cap kvs hs.2 hf)
  | .wildIdx r, hs, hf => max_cap (Rhs.wb_cap r hs hf)
  | .star r, hs, hf => max_cap (Rhs.wb_cap r hs hf)
  | .slice _ r, hs, hf => max_cap (Rhs.wb_cap r hs hf)
  | .flatten _, _, hf => nomatch hf
  | .filter p r, hs, hf =>
    have hf := Bool.and_eq_true_iff.mp hf
    max_cap (max_cap2 (Expr.wb_cap p hs.1 hf.1) (Rhs.wb_cap r hs.2 hf.2))
theorem Led.wb_cap : ∀ l : Led, l.Small → l.flattenFree = true → l.wb CAP = CAP
  | .index _, _, _ => rfl
  | .callDev _, _, _ => rfl
  | .dot dr, hs, hf => max_cap (DotRhs.wb_cap dr hs hf)
  | .pipe e, hs, hf => max_cap (Expr.wb_cap e hs hf)
  | .or e, hs, hf => max_cap (Expr.wb_cap e hs hf)
  | .and e, hs, hf => max_cap (Expr.wb_cap e hs hf)
  | .cmp _ e, hs, hf => max_cap (Expr.wb_cap e hs hf)
  | .wildIdxL r, hs, hf => max_cap (Rhs.wb_cap r hs hf)
  | .dotStar r, hs, hf => max_cap (Rhs.wb_cap r hs hf)
  | .sliceL _ r, hs, hf => max_cap (Rhs.wb_cap r hs hf)
  | .flattenL _, _, hf => nomatch hf
  | .filterL p r, hs, hf =>
    have hf := Bool.and_eq_true_iff.mp hf
    max_cap (max_cap2 (Expr.wb_cap p hs.1 hf.1) (Rhs.wb_cap r hs.2 hf.2))
theorem Rhs.wb_cap : ∀ r : Rhs, r.Small → r.flattenFree = true → r.wb CAP = CAP
  | .none, _, _ => rfl
  | .dot dr, hs, hf => max_cap (DotRhs.wb_cap dr hs hf)
  | .bracket e, hs, hf => max_cap (Expr.wb_cap e hs hf)
theorem DotRhs.wb_cap : ∀ dr : DotRhs, dr.Small → dr.flattenFree = true → dr.wb CAP = CAP
  | .mlist es, hs, hf => max_cap_len hs.1 (exprsWb_cap es hs.2 hf)
  | .expr e, hs, hf => max_cap (Expr.wb_cap e hs hf)
theorem Expr.wb_cap : ∀ e : Expr, e.Small → e.flattenFree = true → e.wb CAP = CAP
  | .mk h ls, hs, hf =>
    have hf := Bool.and_eq_true_iff.mp hf
    (congrArg (ledsWb · ls) (Nud.wb_cap h hs.1 hf.1)).trans (ledsWb_cap ls hs.2 hf.2)
theorem ledsWb_cap : ∀ ls : List Led, ledsSmall ls → ledsFlattenFree ls = true → ledsWb CAP ls = CAP
  | [], _, _ => rfl
  | l :: ls, hs, hf =>
    have hf := Bool.and_eq_true_iff.mp hf
    (congrArg (ledsWb · ls) (Led.wb_cap l hs.1 hf.1)).trans (ledsWb_cap ls hs.2 hf.2)
theorem exprsWb_cap : ∀ es : List Expr, exprsSmall es → exprsFlattenFree es = true →
    exprsWb CAP es = CAP
  | [], _, _ => rfl
  | e :: es, hs, hf =>
    have hf := Bool.and_eq_true_iff.mp hf
    max_cap2 (Expr.wb_cap e hs.1 hf.1) (exprsWb_cap es hs.2 hf.2)
theorem kvsWb_cap : ∀ kvs : List (Bool × String × Expr), kvsSmall kvs → kvsFlattenFree kvs = true →
    kvsWb CAP kvs = CAP
  | [], _, _ => rfl
  | (_, _, e) :: r, hs, hf =>
    have hf := Bool.and_eq_true_iff.mp hf
    max_cap2 (Expr.wb_cap e hs.1 hf.1) (kvsWb_cap r hs.2 hf.2)
end

end JmesVerif
