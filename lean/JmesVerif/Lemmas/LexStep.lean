import JmesVerif.Lemmas.LexTable
/-!
One step of the lexer, as a relation.  `Lexer.Step pos c cs res` has one constructor per kind of arm of the
dispatch table; `lexOne_step` says `Lexer.lexOne pos c cs` is related to its input by it.  What a step leaves is
a suffix of the text, which tokens it can emit, where its errors point: each is a `cases` on `Step`.
-/
namespace JmesVerif

/-- tokens without a payload, the end marker apart -/
def Tok.isPunct : Tok → Bool
  | .identifier _ | .quotedIdentifier _ | .number _ | .literal _ | .eof => false
  | _ => true

theorem tokOfName_isPunct {n : String} {t : Tok} (h : tokOfName n = some t) : t.isPunct = true := by
  unfold tokOfName at h
  split at h <;> cases h <;> rfl

namespace Lexer

theorem takeWhile_suffix {p : Char → Bool} {cs a r : List Char} (h : takeWhile p cs = (a, r)) :
    cs = a ++ r := by
  induction cs generalizing a with
  | nil => cases h; rfl
  | cons c cs ih =>
    rw [takeWhile] at h
    split at h
    · cases h; rw [List.cons_append, ← ih rfl]
    · cases h; rfl

theorem consumeInside_suffix {w : Char} {cs acc b r : List Char}
    (h : consumeInside w cs acc = some (b, r)) : ∃ mid, cs = mid ++ r := by
  fun_induction consumeInside w cs acc with
  | case1 => cases h
  | case2 => cases h; exact ⟨[_], rfl⟩
  | case3 _ _ _ _ ih => obtain ⟨mid, rfl⟩ := ih h; exact ⟨_ :: _ :: mid, rfl⟩
  | case4 => cases h
  | case5 _ _ _ _ _ ih => obtain ⟨mid, rfl⟩ := ih h; exact ⟨_ :: mid, rfl⟩

/-- what an arm of the dispatch table can return on the text `cs` after the character `c` at `pos` -/
inductive Step (pos : Nat) (c : Char) : List Char → Except LexErr (Option Tok × List Char) → Prop
  | ident {cs a r} : takeWhile isIdChar cs = (a, r) →
      Step pos c cs (.ok (some (.identifier (String.ofList (c :: a))), r))
  | one {t} (cs) : t.isPunct = true → Step pos c cs (.ok (some t, cs))
  | two {t} (d r) : t.isPunct = true → Step pos c (d :: r) (.ok (some t, r))
  | quoted {cs buf r s} : consumeInside '"' cs [] = some (buf, r) →
      JsonText.parse ('"' :: buf ++ ['"']) = some (.str s) → Step pos c cs (.ok (some (.quotedIdentifier s), r))
  | raw {cs buf r} : consumeInside '\'' cs [] = some (buf, r) →
      Step pos c cs (.ok (some (.literal (.str (String.ofList (unescape '\'' buf)))), r))
  | literal {cs buf r v} : consumeInside '`' cs [] = some (buf, r) →
      JsonText.parse (unescape '`' buf) = some v → Step pos c cs (.ok (some (.literal v), r))
  | number {cs a r} : takeWhile isDigit cs = (a, r) → digitsVal (c :: a) ≤ 2147483647 →
      Step pos c cs (.ok (some (.number (digitsVal (c :: a))), r))
  | negative {d cs a r} : takeWhile isDigit cs = (a, r) → digitsVal (d :: a) ≤ 2147483647 →
      Step pos c (d :: cs) (.ok (some (.number (-(digitsVal (d :: a) : Int))), r))
  | skip (cs) : Step pos c cs (.ok (none, cs))
  | error (cs k) : Step pos c cs (.error ⟨pos, k⟩)

theorem runCall_step (h : String) (pos : Nat) (c : Char) (cs : List Char) :
    Step pos c cs (runCall h pos c cs) := by
  unfold runCall
  split
  · split; exact .ident ‹_›
  · split
    · exact .two _ _ rfl
    · exact .two _ _ rfl
    · exact .one _ rfl
  · split
    · exact .error ..
    · split
      · exact .quoted ‹_› ‹_›
      · exact .error ..
  · split
    · exact .error ..
    · exact .raw ‹_›
  · split
    · exact .error ..
    · split
      · exact .literal ‹_› ‹_›
      · exact .error ..
  · split
    dsimp only
    split
    · exact .number ‹_› ‹_›
    · exact .error ..
  · split
    · split
      · split
        dsimp only
        split
        · exact .negative ‹_› ‹_›
        · exact .error ..
      · exact .error ..
    · exact .error ..
  · exact .error ..

theorem runAct_step (a : LexAct) (pos : Nat) (c : Char) (cs : List Char) :
    Step pos c cs (runAct a pos c cs) := by
  cases a with
  | single n =>
    rw [runAct]
    split
    · exact .one _ (tokOfName_isPunct ‹_›)
    · exact .error ..
  | alt d y n =>
    rw [runAct]
    split
    · split
      · split
        · exact .two _ _ (tokOfName_isPunct ‹_›)
        · exact .one _ (tokOfName_isPunct ‹_›)
      · exact .one _ (tokOfName_isPunct ‹_›)
    · exact .error ..
  | call h => exact runCall_step h pos c cs
  | eqeq =>
    simp only [runAct]
    split
    · exact .two _ _ rfl
    · exact .error ..
  | skip => exact .skip cs
  | invalid => exact .error ..

end Lexer
open Lexer

theorem lexOne_step {pos : Nat} {c : Char} {cs : List Char} {res : Except LexErr (Option Tok × List Char)}
    (h : lexOne pos c cs = res) : Step pos c cs res :=
  h ▸ lexOne_eq_table pos c cs ▸ runAct_step ..

theorem lexOne_suffix {pos : Nat} {c : Char} {cs : List Char} {t : Option Tok} {r : List Char}
    (h : lexOne pos c cs = .ok (t, r)) : ∃ mid, cs = mid ++ r := by
  cases lexOne_step h with
  | ident h | number h => exact ⟨_, takeWhile_suffix h⟩
  | one | skip => exact ⟨[], rfl⟩
  | two d => exact ⟨[d], rfl⟩
  | quoted h | raw h | literal h => exact consumeInside_suffix h
  | negative h => exact ⟨_ :: _, congrArg _ (takeWhile_suffix h)⟩

/-- a lexer error carries the position of the character the token started at -/
theorem lexOne_error_pos {pos : Nat} {c : Char} {cs : List Char} {e : LexErr}
    (h : lexOne pos c cs = .error e) : e.pos = pos := by
  cases lexOne_step h; rfl

end JmesVerif
