import JmesVerif.Lemmas.LexStep
/-!
Lexer fuel: from `fuel ≥ |cs| + 1` on, the result of `Lexer.loop` is the same for every fuel
(`lexLoop_fuel_stable`); `tokenize` starts the loop with exactly `|cs| + 1`.
-/
namespace JmesVerif

theorem lexOne_length (pos : Nat) (c : Char) (cs : List Char) (t : Option Tok) (r : List Char)
    (h : Lexer.lexOne pos c cs = .ok (t, r)) : r.length ≤ cs.length := by
  obtain ⟨mid, rfl⟩ := lexOne_suffix h
  simp

theorem lexLoop_fuel_stable (total : Nat) : ∀ (fuel : Nat) (cs : List Char) (acc : List (Nat × Tok)),
    cs.length + 1 ≤ fuel → Lexer.loop total fuel cs acc = Lexer.loop total (fuel + 1) cs acc := by
  intro fuel
  induction fuel with
  | zero => intro cs acc h; omega
  | succ n ih =>
    intro cs acc h
    cases cs with
    | nil => simp [Lexer.loop]
    | cons c cs' =>
      rw [Lexer.loop, Lexer.loop]
      cases hl : Lexer.lexOne (total - Lexer.utf8Len (c :: cs')) c cs' with
      | error e => rfl
      | ok v =>
        obtain ⟨t, r⟩ := v
        have hr := lexOne_length _ _ _ _ _ hl
        simp only [List.length_cons] at h
        cases t with
        | none => exact ih r acc (by omega)
        | some t => exact ih r _ (by omega)

theorem lexLoop_fuel_stable' (total : Nat) (cs : List Char) (acc : List (Nat × Tok)) (k : Nat) :
    Lexer.loop total (cs.length + 1 + k) cs acc = Lexer.loop total (cs.length + 1) cs acc := by
  induction k with
  | zero => rfl
  | succ k ih => rw [← ih, ← Nat.add_assoc, ← lexLoop_fuel_stable total _ cs acc (by omega)]

end JmesVerif
