import JmesVerif.Lemmas.ParserBasic
/-!
Every parser function answers with a suffix of its token queue; `nud` and `led` take at least
their first token.  The fuel bound (`ParserFuel`) needs the lengths, the equivalence with the
translated code (`ParserEquiv`) the suffix itself.

"`ts'` is a suffix of `ts`" is stated as `∀ big, ts <:+ big → ts' <:+ big`: in this form the fact
about a sub-call is applied to the hypothesis at hand and no transitivity step is needed.

The lemmas (`Sfx`, `sfx_all`, `expr_suffix`, ...) live in `namespace Pos`, which `Positions.lean` continues.
-/
namespace JmesVerif
open Parser
namespace Pos

theorem sfx_cons {l big : List PT} (a : PT) (h : a :: l <:+ big) : l <:+ big :=
  (List.suffix_cons a l).trans h
grind_pattern sfx_cons => a :: l <:+ big

theorem idxLoop_suffix : ∀ (fuel : Nat) ts off a b c k r ts' off',
    idxLoop fuel ts off a b c k = .ok (r, ts', off') → ∀ big, ts <:+ big → ts' <:+ big := by
  intro fuel
  induction fuel with
  | zero => intro ts off a b c k r ts' off' h; cases h
  | succ n ih =>
    intro ts off a b c k x ts' off' h big hb
    obtain _ | ⟨⟨p, t⟩, r⟩ := ts
    · cases h
    replace hb := sfx_cons _ hb
    obtain ⟨v, rfl⟩ | rfl | rfl | ht := idxLoop_other t
    · rw [idxLoop_number] at h
      split at h
      case h_3 => cases h
      all_goals exact ih _ _ _ _ _ _ _ _ _ h _ hb
    · rw [idxLoop_colon] at h
      split at h
      · cases h
      split at h
      case h_4 => cases h
      all_goals exact ih _ _ _ _ _ _ _ _ _ h _ hb
    · rw [idxLoop_rbracket] at h
      repeat' split at h
      all_goals cases h
      all_goals exact hb
    · rw [ht] at h; cases h

structure Sfx (n : Nat) : Prop where
  expr : ∀ rbp ts off r ts' off', Parser.expr n rbp ts off = .ok (r, ts', off') → ∀ big, ts <:+ big → ts' <:+ big
  loop : ∀ rbp h acc left ts off r ts' off', Parser.loop n rbp h acc left ts off = .ok (r, ts', off') → ∀ big, ts <:+ big → ts' <:+ big
  nud : ∀ ts off r ts' off', Parser.nud n ts off = .ok (r, ts', off') → ∀ big, ts <:+ big → ts' <:+ big
  led : ∀ left ts off r ts' off', Parser.led n left ts off = .ok (r, ts', off') → ∀ big, ts <:+ big → ts' <:+ big
  index : ∀ ts off r ts' off', Parser.parseIndex n ts off = .ok (r, ts', off') → ∀ big, ts <:+ big → ts' <:+ big
  projRhs : ∀ k ts off r ts' off', Parser.projRhs n k ts off = .ok (r, ts', off') → ∀ big, ts <:+ big → ts' <:+ big
  dot : ∀ k ts off r ts' off', Parser.parseDot n k ts off = .ok (r, ts', off') → ∀ big, ts <:+ big → ts' <:+ big
  multiList : ∀ ts off r ts' off', Parser.multiList n ts off = .ok (r, ts', off') → ∀ big, ts <:+ big → ts' <:+ big
  list : ∀ paren ts off es as r ts' off', Parser.parseList n paren ts off es as = .ok (r, ts', off') → ∀ big, ts <:+ big → ts' <:+ big
  kvps : ∀ ts off ks aks r ts' off', Parser.kvps n ts off ks aks = .ok (r, ts', off') → ∀ big, ts <:+ big → ts' <:+ big
  filter : ∀ lhs ts off r ts' off', Parser.parseFilter n lhs ts off = .ok (r, ts', off') → ∀ big, ts <:+ big → ts' <:+ big
  flatten : ∀ lhs ts off r ts' off', Parser.parseFlatten n lhs ts off = .ok (r, ts', off') → ∀ big, ts <:+ big → ts' <:+ big
  wv : ∀ lhs ts off r ts' off', Parser.wildcardValues n lhs ts off = .ok (r, ts', off') → ∀ big, ts <:+ big → ts' <:+ big
  wi : ∀ lhs ts off r ts' off', Parser.wildcardIndex n lhs ts off = .ok (r, ts', off') → ∀ big, ts <:+ big → ts' <:+ big

/-! One step per function.  `split at h <;> cases h` on `(match sub-call with | .error e => .error e
| .ok (x, ts, off) => .ok (y, ts, off)) = .ok (r, ts', off')` leaves the `.ok` branch, with the
equation for the sub-call as the last hypothesis. -/

variable {n : Nat}

theorem sfx_nud (ih : Sfx n) : ∀ ts off r ts' off', Parser.nud (n+1) ts off = .ok (r, ts', off') →
    ∃ pt tl, ts = pt :: tl ∧ ∀ big, tl <:+ big → ts' <:+ big := by
  intro ts off r ts' off' h
  unfold Parser.nud at h
  split at h
  · cases h
  · refine ⟨_, _, rfl, fun big hb => ?_⟩
    split at h
    · cases h; exact hb
    · cases h; exact hb
    · split at h <;> cases h; exact hb
    · split at h <;> cases h; exact ih.wv _ _ _ _ _ _ ‹_› _ hb
    · cases h; exact hb
    · split at h
      iterate 2
        · split at h <;> cases h <;> exact ih.index _ _ _ _ _ ‹_› _ hb
      · split at h <;> cases h; exact ih.wi _ _ _ _ _ _ ‹_› _ (sfx_cons _ hb)
      · split at h <;> cases h; exact ih.multiList _ _ _ _ _ ‹_› _ hb
    · split at h <;> cases h; exact ih.flatten _ _ _ _ _ _ ‹_› _ hb
    · split at h <;> cases h; exact ih.kvps _ _ _ _ _ _ _ ‹_› _ hb
    iterate 2
      · split at h <;> cases h; exact ih.expr _ _ _ _ _ _ ‹_› _ hb
    · split at h <;> cases h; exact ih.filter _ _ _ _ _ _ ‹_› _ hb
    · split at h
      · cases h
      · have := ih.expr _ _ _ _ _ _ ‹_› _ hb
        split at h <;> cases h; exact sfx_cons _ this
    · cases h

theorem sfx_led (ih : Sfx n) : ∀ left ts off r ts' off', Parser.led (n+1) left ts off = .ok (r, ts', off') →
    ∃ pt tl, ts = pt :: tl ∧ ∀ big, tl <:+ big → ts' <:+ big := by
  intro left ts off r ts' off' h
  unfold Parser.led at h
  split at h
  · cases h
  · refine ⟨_, _, rfl, fun big hb => ?_⟩
    split at h
    · split at h
      · split at h <;> cases h; exact ih.wv _ _ _ _ _ _ ‹_› _ (sfx_cons _ hb)
      · split at h <;> cases h; exact ih.dot _ _ _ _ _ _ ‹_› _ hb
    · split at h
      iterate 2
        · split at h <;> cases h <;> exact ih.index _ _ _ _ _ ‹_› _ hb
      · split at h <;> cases h; exact ih.wi _ _ _ _ _ _ ‹_› _ (sfx_cons _ hb)
      · cases h
    iterate 3
      · split at h <;> cases h; exact ih.expr _ _ _ _ _ _ ‹_› _ hb
    · split at h <;> cases h; exact ih.flatten _ _ _ _ _ _ ‹_› _ hb
    · split at h <;> cases h; exact ih.filter _ _ _ _ _ _ ‹_› _ hb
    · split at h
      · split at h <;> cases h; exact ih.expr _ _ _ _ _ _ ‹_› _ hb
      · cases h

theorem Sfx.succ (ih : Sfx n) : Sfx (n + 1) := by
  have tail {ts ts' : List PT} (h : ∃ pt tl, ts = pt :: tl ∧ ∀ big, tl <:+ big → ts' <:+ big) :
      ∀ big, ts <:+ big → ts' <:+ big := by
    obtain ⟨pt, tl, rfl, h⟩ := h
    exact fun big hb => h big (sfx_cons _ hb)
  constructor
  · intro rbp ts off r ts' off' h big hb
    unfold Parser.expr at h
    split at h
    · cases h
    · exact ih.loop _ _ _ _ _ _ _ _ _ h _ (ih.nud _ _ _ _ _ ‹_› _ hb)
  · intro rbp h acc left ts off r ts' off' h big hb
    unfold Parser.loop at h
    split at h
    · split at h
      · split at h
        · split at h
          · cases h
          · have := ih.list _ _ _ _ _ _ _ _ ‹_› _ (sfx_cons _ hb)
            split at h <;> exact ih.loop _ _ _ _ _ _ _ _ _ h _ this
        · cases h
      · split at h
        · cases h
        · exact ih.loop _ _ _ _ _ _ _ _ _ h _ (ih.led _ _ _ _ _ _ ‹_› _ hb)
    · cases h; exact hb
  · exact fun ts off r ts' off' h => tail (sfx_nud ih ts off r ts' off' h)
  · exact fun left ts off r ts' off' h => tail (sfx_led ih left ts off r ts' off' h)
  · intro ts off r ts' off' h big hb
    unfold Parser.parseIndex at h
    split at h
    · cases h
    · cases h; exact idxLoop_suffix _ _ _ _ _ _ _ _ _ _ ‹_› _ hb
    · have := idxLoop_suffix _ _ _ _ _ _ _ _ _ _ ‹_› _ hb
      simp only at h
      split at h <;> cases h; exact ih.projRhs _ _ _ _ _ _ ‹_› _ this
  · intro k ts off r ts' off' h big hb
    unfold Parser.projRhs at h
    split at h
    · split at h <;> cases h; exact ih.dot _ _ _ _ _ _ ‹_› _ (sfx_cons _ hb)
    iterate 2
      · split at h <;> cases h; exact ih.expr _ _ _ _ _ _ ‹_› _ hb
    · split at h <;> cases h; exact hb
  · intro k ts off r ts' off' h big hb
    unfold Parser.parseDot at h
    split at h
    · split at h <;> cases h; exact ih.multiList _ _ _ _ _ ‹_› _ (sfx_cons _ hb)
    iterate 5
      · split at h <;> cases h; exact ih.expr _ _ _ _ _ _ ‹_› _ hb
    · cases h
  · intro ts off r ts' off' h big hb
    unfold Parser.multiList at h
    split at h
    · cases h
    · split at h <;> cases h; exact ih.list _ _ _ _ _ _ _ _ ‹_› _ hb
  · intro paren ts off es as r ts' off' h big hb
    unfold Parser.parseList at h
    split at h
    · split at h
      · cases h; exact sfx_cons _ hb
      · split at h
        · cases h
        · have := ih.expr _ _ _ _ _ _ ‹_› _ hb
          split at h
          · split at h
            · cases h
            · exact ih.list _ _ _ _ _ _ _ _ h _ (sfx_cons _ this)
          · split at h <;> cases h; exact sfx_cons _ this
          · cases h
    · cases h
  · intro ts off ks aks r ts' off' h big hb
    unfold Parser.kvps at h
    simp only at h
    split at h
    · split at h <;> cases h
    · rename_i q s p r hkey
      have hr : r <:+ big := by
        split at hkey <;> cases hkey <;> exact sfx_cons _ hb
      split at h
      · split at h
        · cases h
        · have := ih.expr _ _ _ _ _ _ ‹_› _ (sfx_cons _ hr)
          split at h
          · cases h; exact sfx_cons _ this
          · exact ih.kvps _ _ _ _ _ _ _ h _ (sfx_cons _ this)
          · cases h
          · cases h
      · cases h
  · intro lhs ts off r ts' off' h big hb
    unfold Parser.parseFilter at h
    split at h
    · cases h
    · have := ih.expr _ _ _ _ _ _ ‹_› _ hb
      split at h
      · split at h <;> cases h; exact ih.projRhs _ _ _ _ _ _ ‹_› _ (sfx_cons _ this)
      · cases h
      · cases h
  · intro lhs ts off r ts' off' h
    unfold Parser.parseFlatten at h
    split at h <;> cases h; exact ih.projRhs _ _ _ _ _ _ ‹_›
  · intro lhs ts off r ts' off' h
    unfold Parser.wildcardValues at h
    split at h <;> cases h; exact ih.projRhs _ _ _ _ _ _ ‹_›
  · intro lhs ts off r ts' off' h big hb
    unfold Parser.wildcardIndex at h
    split at h
    · split at h <;> cases h; exact ih.projRhs _ _ _ _ _ _ ‹_› _ (sfx_cons _ hb)
    · cases h
    · cases h

theorem sfx_all : ∀ n, Sfx n
  | 0 => by constructor <;> intros <;> simp_all
  | n + 1 => (sfx_all n).succ

theorem length_le_of_sfx {ts ts' : List PT} (h : ∀ big, ts <:+ big → ts' <:+ big) :
    ts'.length ≤ ts.length :=
  (h ts (List.suffix_refl ts)).length_le

theorem nud_length {n ts off r ts' off'} (h : Parser.nud n ts off = .ok (r, ts', off')) :
    ts'.length < ts.length := by
  cases n with
  | zero => simp at h
  | succ n =>
    obtain ⟨pt, tl, rfl, hs⟩ := sfx_nud (sfx_all n) _ _ _ _ _ h
    exact Nat.lt_succ_of_le (length_le_of_sfx hs)

theorem led_length {n left ts off r ts' off'} (h : Parser.led n left ts off = .ok (r, ts', off')) :
    ts'.length < ts.length := by
  cases n with
  | zero => simp at h
  | succ n =>
    obtain ⟨pt, tl, rfl, hs⟩ := sfx_led (sfx_all n) _ _ _ _ _ _ h
    exact Nat.lt_succ_of_le (length_le_of_sfx hs)

theorem expr_suffix (fuel rbp : Nat) (ts : List PT) (off : Nat) (r : Expr × Ast)
    (ts' : List PT) (off' : Nat) (h : Parser.expr fuel rbp ts off = .ok (r, ts', off')) :
    ∃ pre, ts = pre ++ ts' := by
  obtain ⟨pre, hp⟩ := (sfx_all fuel).expr _ _ _ _ _ _ h ts (List.suffix_refl ts)
  exact ⟨pre, hp.symm⟩

end Pos
end JmesVerif
