import JmesVerif.Lemmas.InterpSafe
/-!
Evaluating a disciplined tree on JSON data never runs out of fuel, given enough of it.
-/
namespace JmesVerif
open Comp

/-- a fuel-indexed computation whose non-fuel results are stable -/
def Mono {α : Type} (f : Nat → ERes α) : Prop :=
  ∀ n, f n ≠ .error .fuel → ∀ m, n ≤ m → f m = f n

theorem Mono.interp (rt : Registry) (d : Val) (a : Ast) (off : Nat) : Mono (fun n => interp rt n d a off) :=
  fun n h m hm => interp_mono rt n d a off _ rfl h m hm
theorem Mono.callFn (rt : Registry) (f : Fn) (args : List Val) (off : Nat) :
    Mono (fun n => callFn rt n f args off) :=
  fun n h m hm => callFn_mono rt n f args off _ rfl h m hm
theorem Mono.byExtreme (rt : Registry) (isMax : Bool) (xs : List Val) (a : Ast) (off : Nat) :
    Mono (fun n => byExtreme rt n isMax xs a off) :=
  fun n h m hm => byExtreme_mono rt n isMax xs a off _ rfl h m hm

/-- the computation does not run out of fuel, at arbitrarily large fuel (so that two such computations
in sequence do not at a common fuel) -/
def Halts (f : Nat → Except EvalErr α) : Prop := ∀ n₀, ∃ n, n₀ ≤ n ∧ f n ≠ .error .fuel

theorem Halts.of_stable {f : Nat → Except EvalErr α} (hf : Stable f) (h : ∃ n, f n ≠ .error .fuel) : Halts f := by
  obtain ⟨n, hn⟩ := h
  exact fun n₀ => ⟨max n n₀, Nat.le_max_right .., by rw [hf n _ rfl hn _ (Nat.le_max_left ..)]; exact hn⟩

theorem Halts.pure (r : Except EvalErr α) (h : r ≠ .error .fuel) : Halts (fun _ => r) :=
  fun n₀ => ⟨n₀, Nat.le_refl _, h⟩

theorem Halts.bind {f : Nat → Except EvalErr α} {g : α → Nat → Except EvalErr β} (hf : Stable f) (h : Halts f)
    (h' : ∀ n v, f n = .ok v → Halts (g v)) : Halts (fun n => f n >>= (g · n)) := by
  intro n₀
  obtain ⟨n, hn, hne⟩ := h n₀
  cases hr : f n with
  | error e => exact ⟨n, hn, by show f n >>= _ ≠ _; rw [hr]; intro e'; cases e'; exact hne hr⟩
  | ok v =>
    obtain ⟨m, hm, hne'⟩ := h' n v hr n
    exact ⟨m, Nat.le_trans hn hm, by show f m >>= _ ≠ _; rw [hf n _ hr nofun m hm]; exact hne'⟩

theorem Halts.map {f : Nat → Except EvalErr α} (hf : Stable f) (h : Halts f) (k : α → β) :
    Halts (fun n => f n >>= fun v => .ok (k v)) :=
  h.bind (g := fun v _ => .ok (k v)) hf fun _ _ _ => .pure _ nofun

theorem Halts.ite {c : Prop} [Decidable c] {f g : Nat → Except EvalErr α} (hf : c → Halts f) (hg : ¬c → Halts g) :
    Halts (fun n => if c then f n else g n) := by
  by_cases hc : c
  · simpa only [if_pos hc] using hf hc
  · simpa only [if_neg hc] using hg hc

/-- a function of the block that hands the offset back halts if its next level does -/
theorem Halts.lift {f : Nat → Except EvalErr α} {F : Nat → ERes α} {off : Nat} (h : Halts f)
    (hF : ∀ n, F (n + 1) = lift off (f n)) : ∃ n, F n ≠ .error .fuel := by
  obtain ⟨n, _, hn⟩ := h 0
  exact ⟨n + 1, fun e => hn (lift_error_iff.1 (hF n ▸ e))⟩

theorem Halts.succ {f : Nat → Except EvalErr α} (h : Halts (fun n => f (n + 1))) : Halts f := fun n₀ => by
  obtain ⟨n, hn, h⟩ := h n₀
  exact ⟨n + 1, Nat.le_succ_of_le hn, h⟩

/-- the tree terminates on every JSON datum -/
def TermOn (rt : Registry) (a : Ast) : Prop :=
  ∀ d, d.isJson = true → ∀ off, ∃ n, interp rt n d a off ≠ .error .fuel

theorem TermOn.halts {rt : Registry} {a : Ast} (h : TermOn rt a) (d : Val) (hd : d.isJson = true) :
    Halts (fun n => ev rt n d a) := by
  obtain ⟨n, hn⟩ := h d hd 0
  exact .of_stable (stable_ev rt d a) ⟨n, fun e => hn (outcome_error_iff.1 e)⟩

theorem validateArgs_ne_fuel (s : Sig) (off : Nat) : ∀ (args : List Val) (k : Nat),
    s.validateArgs off k args ≠ .error .fuel := by
  intro args
  induction args with
  | nil => intro k; simp [Sig.validateArgs]
  | cons v vs ih =>
    intro k
    simp only [Sig.validateArgs]
    repeat' split
    all_goals (first | exact ih _ | simp)

theorem validateArity_ne_fuel (s : Sig) (k : Nat) (off : Nat) : s.validateArity k off ≠ .error .fuel := by
  unfold Sig.validateArity
  simp only
  split
  · split <;> simp
  · split
    · simp
    · split <;> simp

theorem validate_ne_fuel (s : Sig) (args : List Val) (off : Nat) : s.validate args off ≠ .error .fuel := by
  unfold Sig.validate
  split
  · rename_i e h
    rw [← h]; exact validateArity_ne_fuel _ _ _
  · exact validateArgs_ne_fuel _ _ _ _

theorem pure_ne_fuel (b : Builtin) (args : List Val) : b.pure args ≠ .error .fuel := by
  intro h
  rcases pure_error b args _ h with ⟨_, _, h'⟩ | ⟨_, h'⟩ <;> cases h'

theorem halts_evEach {rt : Registry} {a : Ast} (ht : TermOn rt a) : ∀ xs : List Val,
    (∀ x ∈ xs, x.isJson = true) → Halts (fun n => evEach rt n xs a)
  | [], _ => .succ (by simp only [evEach_succ]; exact .pure _ nofun)
  | x :: rest, hx => .succ (by
    simp only [evEach_succ, evEachStep]
    exact (ht.halts x (hx x (by simp))).bind (stable_ev _ _ _) fun _ v _ =>
      (halts_evEach ht rest fun y hy => hx y (by simp [hy])).map (stable_evEach _ _ _) _)

theorem halts_evMap {rt : Registry} {a : Ast} (ht : TermOn rt a) : ∀ xs : List Val,
    (∀ x ∈ xs, x.isJson = true) → Halts (fun n => evMap rt n xs a)
  | [], _ => .succ (by simp only [evMap_succ]; exact .pure _ nofun)
  | x :: rest, hx => .succ (by
    simp only [evMap_succ, evMapStep]
    exact (ht.halts x (hx x (by simp))).bind (stable_ev _ _ _) fun _ v _ =>
      (halts_evMap ht rest fun y hy => hx y (by simp [hy])).map (stable_evMap _ _ _) _)

theorem halts_evKeys {rt : Registry} {a : Ast} (ht : TermOn rt a) (ty : JType) (off : Nat) : ∀ (xs : List Val)
    (inv : Nat), (∀ x ∈ xs, x.isJson = true) → Halts (fun n => evKeys rt n xs a ty inv off)
  | [], _, _ => .succ (by simp only [evKeys_succ]; exact .pure _ nofun)
  | x :: rest, inv, hx => .succ (by
    simp only [evKeys_succ, evKeysStep]
    exact (ht.halts x (hx x (by simp))).bind (stable_ev _ _ _) fun _ v _ => .ite (fun _ => .pure _ (by simp)) fun _ =>
      (halts_evKeys ht ty off rest _ fun y hy => hx y (by simp [hy])).map (stable_evKeys _ _ _ _ _ _) _)

theorem halts_keyLoop {rt : Registry} {a : Ast} (ht : TermOn rt a) (x : Val) (rest : List Val)
    (hx : ∀ y ∈ x :: rest, y.isJson = true) (off : Nat) (expected : String) (f : Val → List Val → Val) :
    Halts (fun n => keyLoop rt n x rest a off expected f) :=
  (ht.halts x (hx x (by simp))).bind (stable_ev _ _ _) fun _ k0 _ => .ite (fun _ => .pure _ (by simp)) fun _ =>
    (halts_evKeys ht k0.type off rest 1 fun y hy => hx y (by simp [hy])).map (stable_evKeys _ _ _ _ _ _) _

theorem term_byExtreme (rt : Registry) (a : Ast) (ht : TermOn rt a) (isMax : Bool) (xs : List Val)
    (hx : ∀ x ∈ xs, x.isJson = true) (off : Nat) : ∃ n, byExtreme rt n isMax xs a off ≠ .error .fuel := by
  refine Halts.lift ?_ fun n => byExtreme_succ rt n isMax xs a off
  cases xs with
  | nil => exact .pure _ nofun
  | cons x rest => exact halts_keyLoop ht x rest hx _ _ _

theorem term_callFn (rt : Registry) (b : Builtin) (vs : List Val) (off : Nat)
    (hq : ArgsQ (TermOn rt) b.slot 0 vs) : ∃ n, callFn rt n (.builtin b) vs off ≠ .error .fuel := by
  rcases callFn_shape b vs off with ⟨e, hv, he⟩ | ⟨_, _, hp⟩ | ⟨rfl, a, xs, rfl⟩ | ⟨hb, a, xs, rfl⟩
  · exact ⟨1, by rw [he]; exact fun h => validate_ne_fuel _ _ _ (hv.trans (by cases h; rfl))⟩
  · exact ⟨1, by rw [hp]; exact fun h => pure_ne_fuel b vs (lift_error_iff.1 h)⟩
  · simp [ArgsQ, Builtin.slot] at hq
    exact ((halts_evMap hq.1 xs hq.2).map (stable_evMap _ _ _) _).lift fun n => callFn_map_eq rt n a xs off
  · have hq' : (∀ x ∈ xs, x.isJson = true) ∧ TermOn rt a := by
      rcases hb with rfl | rfl | rfl <;> simp [ArgsQ, Builtin.slot] at hq <;> exact hq
    rcases hb with rfl | rfl | rfl
    · refine Halts.lift ?_ fun n => callFn_sortBy_eq rt n a xs off
      cases xs with
      | nil => exact .pure _ nofun
      | cons x rest => exact halts_keyLoop hq'.2 x rest hq'.1 _ _ _
    · obtain ⟨n, hn⟩ := term_byExtreme rt a hq'.2 true xs hq'.1 off
      exact ⟨n + 1, by rw [callFn_maxBy]; exact hn⟩
    · obtain ⟨n, hn⟩ := term_byExtreme rt a hq'.2 false xs hq'.1 off
      exact ⟨n + 1, by rw [callFn_minBy]; exact hn⟩

theorem halts_evAll {rt : Registry} {d : Val} (hd : d.isJson = true) : ∀ es : List Ast,
    (∀ e ∈ es, Halts (fun n => ev rt n d e)) → Halts (fun n => evAll rt n d es)
  | [], _ => .succ (by simp only [evAll_succ]; exact .pure _ nofun)
  | e :: rest, hes => .succ (by
    simp only [evAll_succ, evAllStep]
    exact (hes e (by simp)).bind (stable_ev _ _ _) fun _ v _ =>
      (halts_evAll hd rest fun y hy => hes y (by simp [hy])).map (stable_evAll _ _ _) _)

theorem halts_evKVs {rt : Registry} {d : Val} (hd : d.isJson = true) : ∀ (kvs : List (String × Ast))
    (acc : List (String × Val)), (∀ p ∈ kvs, Halts (fun n => ev rt n d p.2)) → Halts (fun n => evKVs rt n d kvs acc)
  | [], _, _ => .succ (by simp only [evKVs_succ]; exact .pure _ nofun)
  | (k, e) :: rest, acc, hes => .succ (by
    simp only [evKVs_succ, evKVsStep]
    exact (hes (k, e) (by simp)).bind (stable_ev _ _ _) fun _ v _ =>
      halts_evKVs hd rest _ fun y hy => hes y (by simp [hy]))

theorem sizeList_mem (es : List Ast) (e : Ast) (h : e ∈ es) : e.size ≤ Ast.sizeList es := by
  induction es with
  | nil => simp at h
  | cons x rest ih =>
    simp only [List.mem_cons] at h
    simp only [Ast.sizeList]
    rcases h with rfl | h
    · omega
    · have := ih h; omega

theorem sizeKVs_mem (kvs : List (String × Ast)) (p : String × Ast) (h : p ∈ kvs) :
    p.2.size ≤ Ast.sizeKVs kvs := by
  induction kvs with
  | nil => simp at h
  | cons x rest ih =>
    obtain ⟨k, e⟩ := x
    simp only [List.mem_cons] at h
    simp only [Ast.sizeKVs]
    rcases h with rfl | h
    · simp
    · have := ih h; omega

theorem size_pos (a : Ast) : 1 ≤ a.size := by
  cases a <;> simp only [Ast.size] <;> omega

theorem ev_json {rt : Registry} (hrt : RegOK rt) {n : Nat} {d : Val} {a : Ast} {v : Val}
    (ha : a.Disciplined = true) (hd : d.isJson = true) (h : ev rt n d a = .ok v) : v.isJson = true := by
  have := (jsonStep_all rt hrt n).ev d a ha hd
  rwa [h] at this

theorem discList_mem : ∀ {es : List Ast}, Ast.discList es = true → ∀ e ∈ es, e.Disciplined = true
  | e :: rest, he, e', hm => by
    simp only [Ast.discList, Bool.and_eq_true] at he
    rcases List.mem_cons.1 hm with rfl | hm
    · exact he.1
    · exact discList_mem he.2 e' hm

theorem discKVs_mem : ∀ {kvs : List (String × Ast)}, Ast.discKVs kvs = true → ∀ p ∈ kvs, p.2.Disciplined = true
  | (k, e) :: rest, he, p, hm => by
    simp only [Ast.discKVs, Bool.and_eq_true] at he
    rcases List.mem_cons.1 hm with rfl | hm
    · exact he.1
    · exact discKVs_mem he.2 p hm

/-- members of an argument list: a bare `&expr` evaluates to itself at once -/
theorem discArgs_mem {name : String} : ∀ {es : List Ast} {i : Nat}, Ast.discArgs name i es = true →
    ∀ e ∈ es, (∃ o body, e = .expref o body) ∨ e.Disciplined = true
  | e :: rest, i, he, e', hm => by
    have : ((∃ o body, e = .expref o body) ∨ e.Disciplined = true) ∧ Ast.discArgs name (i + 1) rest = true := by
      by_cases hex : ∃ o body, e = .expref o body
      · obtain ⟨o, body, rfl⟩ := hex
        rw [Ast.discArgs] at he; simp only [Bool.and_eq_true] at he; exact ⟨.inl ⟨_, _, rfl⟩, he.2⟩
      · rw [Ast.discArgs] at he
        · simp only [Bool.and_eq_true] at he; exact ⟨.inr he.1, he.2⟩
        · intro o body hb; exact hex ⟨o, body, hb⟩
    rcases List.mem_cons.1 hm with rfl | hm
    · exact this.1
    · exact discArgs_mem this.2 e' hm

theorem term_ast (rt : Registry) (hrt : RegOK rt) : ∀ (k : Nat) (a : Ast), a.size ≤ k →
    a.Disciplined = true → TermOn rt a := by
  intro k
  induction k with
  | zero => intro a h; have := size_pos a; omega
  | succ k ih =>
    intro a hs ha d hd off
    refine Halts.lift (f := fun n => evStep rt n d a) ?_ fun n => interp_succ (keep_all rt n) d a off
    have ev : ∀ (b : Ast) (d : Val), b.size ≤ k → b.Disciplined = true → d.isJson = true →
        Halts (fun n => Comp.ev rt n d b) := fun b d hb hb' hd => (ih b hb hb').halts d hd
    cases a with
    | field | identity | literal | expref | index => exact .pure _ nofun
    | slice o st sp step =>
      refine fun n₀ => ⟨n₀, Nat.le_refl _, ?_⟩
      simp only [evStep]
      split
      · simp
      · split
        · split <;> simp
        · simp
    | subexpr o l r =>
      simp only [Ast.size] at hs; simp only [Ast.Disciplined, Bool.and_eq_true] at ha
      exact (ev l d (by omega) ha.1 hd).bind (stable_ev _ _ _) fun _ v hv =>
        ev r v (by omega) ha.2 (ev_json hrt ha.1 hd hv)
    | or o l r | and o l r =>
      simp only [Ast.size] at hs; simp only [Ast.Disciplined, Bool.and_eq_true] at ha
      exact (ev l d (by omega) ha.1 hd).bind (stable_ev _ _ _) fun _ v _ =>
        .ite (fun _ => .pure _ nofun) fun _ => ev r d (by omega) ha.2 hd
    | condition o p t =>
      simp only [Ast.size] at hs; simp only [Ast.Disciplined, Bool.and_eq_true] at ha
      exact (ev p d (by omega) ha.1 hd).bind (stable_ev _ _ _) fun _ v _ =>
        .ite (fun _ => ev t d (by omega) ha.2 hd) fun _ => .pure _ nofun
    | comparison o c l r =>
      simp only [Ast.size] at hs; simp only [Ast.Disciplined, Bool.and_eq_true] at ha
      exact (ev l d (by omega) ha.1 hd).bind (stable_ev _ _ _) fun _ v _ =>
        (ev r d (by omega) ha.2 hd).map (stable_ev _ _ _) _
    | not o a | objectValues o a | flatten o a =>
      simp only [Ast.size] at hs; simp only [Ast.Disciplined] at ha
      exact (ev a d (by omega) ha hd).map (stable_ev _ _ _) _
    | projection o l r =>
      simp only [Ast.size] at hs; simp only [Ast.Disciplined, Bool.and_eq_true] at ha
      refine (ev l d (by omega) ha.1 hd).bind (stable_ev _ _ _) (g := fun (v : Val) n => match v with
        | .arr xs => evEach rt n xs r >>= fun ys => Except.ok (Val.arr ys)
        | _ => Except.ok Val.null) fun _ v hv => ?_
      have hj := ev_json hrt ha.1 hd hv
      cases v
      case arr xs =>
        exact (halts_evEach (ih r (by omega) ha.2) xs (arr_json.1 hj)).map (stable_evEach _ _ _) _
      all_goals exact .pure _ nofun
    | multiList o es =>
      simp only [Ast.size] at hs; simp only [Ast.Disciplined] at ha
      refine .ite (fun _ => .pure _ nofun) fun _ => (halts_evAll hd es fun e he => ?_).map (stable_evAll _ _ _) _
      exact ev e d (by have := sizeList_mem es e he; omega) (discList_mem ha e he) hd
    | multiHash o kvs =>
      simp only [Ast.size] at hs; simp only [Ast.Disciplined] at ha
      refine .ite (fun _ => .pure _ nofun) fun _ => (halts_evKVs hd kvs [] fun p hp => ?_).map (stable_evKVs _ _ _ _) _
      exact ev p.2 d (by have := sizeKVs_mem kvs p hp; omega) (discKVs_mem ha p hp) hd
    | function o name args =>
      simp only [Ast.size] at hs; simp only [Ast.Disciplined] at ha
      refine (halts_evAll hd args fun e he => ?_).bind (stable_evAll _ _ _) (g := fun vs n =>
        match rt.get name with
        | some f => outcome (callFn rt n f vs o)
        | none => .error (.runtime (.unknownFunction name) o)) fun n vs hv => ?_
      · have hsz := sizeList_mem args e he
        rcases discArgs_mem ha e he with ⟨o', body, rfl⟩ | hdisc
        · exact .succ (by simp only [ev_succ]; exact .pure _ nofun)
        · exact ev e d (by omega) hdisc hd
      · cases hget : rt.get name with
        | none => exact .pure _ nofun
        | some f =>
          obtain ⟨b, rfl, hsl⟩ := hrt _ _ hget
          have hq := (jsonStep_all rt hrt n).evArgs (TermOn rt) name 0 d args ha
            (fun o' body hm hb => ih body (by
              have := sizeList_mem args _ hm
              simp only [Ast.size] at this
              omega) hb) hd
          rw [hv] at hq
          obtain ⟨M, hM⟩ := term_callFn rt b vs o (ArgsQ.mono (fun _ h => h) hsl _ _ hq)
          exact .of_stable (.of_step fun n => (iMonoStep_all rt n).callFn _ vs o) ⟨M, fun e => hM (outcome_error_iff.1 e)⟩

end JmesVerif
