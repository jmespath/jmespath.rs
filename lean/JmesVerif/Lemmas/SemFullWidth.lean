import JmesVerif.Lemmas.SemWidth
import JmesVerif.Lemmas.SemFullSafe
import JmesVerif.Lemmas.SemFullBase
import JmesVerif.Lemmas.InterpJson
/-
The width bound of `SemWidth.lean` for the full language (`SemFull`): `X.wbF b` bounds the width of
every value that arises when `X` — function calls included — is evaluated on a document of width
≤ `b`; hence (`exprF_w`) a bound below `i32::MAX` implies `SafeF`.
-/
namespace JmesVerif
open Spec

mutual
/-- `h.wbF b`: bound on the width of every value arising when `h` is evaluated on a document of
width ≤ `b` (and of the result).  Same equations as `Nud.wb` on the core forms. -/
def Nud.wbF (b : Nat) : Nud → Nat
  | .lit v => max b v.width
  | .paren e | .not e => max b (e.wbF b)
  | .mlist es => max (max b es.length) (exprsWbF b es)
  | .mhash kvs => max (max b kvs.length) (kvsWbF b kvs)
  | .wildIdx r | .star r | .slice _ r => max b (r.wbF b)
  | .flatten r => max (max b (b * b)) (r.wbF b)
  | .filter p r => max b (max (p.wbF b) (r.wbF b))
  | .call name args =>
    if name == "merge" then
      max (max 1 (fnsWbF (exprsWbF b args) args)) (args.length * fnsWbF (exprsWbF b args) args)
    else max 1 (fnsWbF (exprsWbF b args) args)
  | _ => b
/-- the body of an `&e` head, evaluated on an element of width ≤ `B` -/
def Nud.fnWbF (B : Nat) : Nud → Nat
  | .expref e => e.wbF B
  | _ => B
/-- `b` bounds both the current node and the left value -/
def Led.wbF (b : Nat) : Led → Nat
  | .dot dr => max b (dr.wbF b)
  | .pipe e | .or e | .and e | .cmp _ e => max b (e.wbF b)
  | .wildIdxL r | .dotStar r | .sliceL _ r => max b (r.wbF b)
  | .flattenL r => max (max b (b * b)) (r.wbF b)
  | .filterL p r => max b (max (p.wbF b) (r.wbF b))
  | _ => b
def Rhs.wbF (b : Nat) : Rhs → Nat
  | .none => b
  | .dot dr => max b (dr.wbF b)
  | .bracket e => max b (e.wbF b)
def DotRhs.wbF (b : Nat) : DotRhs → Nat
  | .mlist es => max (max b es.length) (exprsWbF b es)
  | .expr e => max b (e.wbF b)
def Expr.wbF (b : Nat) : Expr → Nat
  | .mk h ls => ledsWbF (h.wbF b) ls
/-- an argument of the form `&body`: the bound of `body` on an element of width ≤ `B`; any other
argument: `B` -/
def Expr.fnWbF (B : Nat) : Expr → Nat
  | .mk h [] => h.fnWbF B
  | .mk _ (_ :: _) => B
def ledsWbF (b : Nat) : List Led → Nat
  | [] => b
  | l :: ls => ledsWbF (l.wbF b) ls
/-- `max` of `b` and the bounds of the members (an `&e` argument of a call contributes `b`) -/
def exprsWbF (b : Nat) : List Expr → Nat
  | [] => b
  | e :: es => max (e.wbF b) (exprsWbF b es)
/-- `max` of `B` and the bounds of the bodies of the `&body` arguments on elements of width ≤ `B` -/
def fnsWbF (B : Nat) : List Expr → Nat
  | [] => B
  | e :: es => max (e.fnWbF B) (fnsWbF B es)
def kvsWbF (b : Nat) : List (Bool × String × Expr) → Nat
  | [] => b
  | (_, _, e) :: r => max (e.wbF b) (kvsWbF b r)
end

example : (Expr.mk (.call "map" [.mk (.expref (.mk (.call "length" [.mk .at []]) [])) [], .mk .at []]) []).wbF 2
    = 2 := by decide
example : (Expr.mk (.call "contains" [.mk .at [], .mk .at []]) []).wbF 7 = 7 := by decide
/-- `merge(@, @, @)` on a document of width ≤ 5 -/
example : (Expr.mk (.call "merge" [.mk .at [], .mk .at [], .mk .at []]) []).wbF 5 = 15 := by decide
/-- `sort_by(@[], &foo)`: the flatten squares the bound, the call adds nothing -/
example : (Expr.mk (.call "sort_by" [.mk (.flatten .none) [], .mk (.expref (.mk (.field "foo") [])) []]) []).wbF 3
    = 9 := by decide


theorem exprsWbF_le : ∀ (es : List Expr) (b : Nat), b ≤ exprsWbF b es
  | [], b => by simp [exprsWbF]
  | e :: es, b => by
    simp only [exprsWbF]; have := exprsWbF_le es b; omega
theorem fnsWbF_le : ∀ (es : List Expr) (b : Nat), b ≤ fnsWbF b es
  | [], b => by simp [fnsWbF]
  | e :: es, b => by
    simp only [fnsWbF]; have := fnsWbF_le es b; omega
theorem Nud.le_wbF (b : Nat) (h : Nud) : b ≤ h.wbF b := by
  cases h with
  | call name args =>
    simp only [Nud.wbF]
    have := exprsWbF_le args b
    have := fnsWbF_le args (exprsWbF b args)
    split <;> omega
  | _ => simp only [Nud.wbF] <;> omega
theorem Led.le_wbF (b : Nat) (l : Led) : b ≤ l.wbF b := by
  cases l <;> simp only [Led.wbF] <;> omega
theorem Rhs.le_wbF (b : Nat) (r : Rhs) : b ≤ r.wbF b := by
  cases r <;> simp only [Rhs.wbF] <;> omega
theorem ledsWbF_le : ∀ (ls : List Led) (b : Nat), b ≤ ledsWbF b ls
  | [], b => by simp [ledsWbF]
  | l :: ls, b => by
    simp only [ledsWbF]
    exact Nat.le_trans (Led.le_wbF b l) (ledsWbF_le ls _)
theorem Expr.le_wbF (b : Nat) : ∀ e : Expr, b ≤ e.wbF b
  | .mk h ls => by
    simp only [Expr.wbF]
    exact Nat.le_trans (Nud.le_wbF b h) (ledsWbF_le ls _)

/-! ### the argument list of a call: unfolding the overlapping patterns -/
theorem fnArg_dec (h : Nud) (ls : List Led) :
    (∃ e, h = .expref e ∧ ls = []) ∨ (∀ e, Expr.mk h ls = .mk (.expref e) [] → False) := by
  cases ls with
  | cons l ls => exact .inr (fun e he => by cases he)
  | nil =>
    cases h with
    | expref e => exact .inl ⟨e, rfl, rfl⟩
    | _ => exact .inr (fun e he => by cases he)

theorem fnWbF_other {h : Nud} {ls : List Led} (hne : ∀ e, Expr.mk h ls = .mk (.expref e) [] → False)
    (B : Nat) : (Expr.mk h ls).fnWbF B = B := by
  cases ls with
  | cons l ls => simp only [Expr.fnWbF]
  | nil =>
    cases h with
    | expref e => exact absurd rfl (hne e)
    | _ => simp only [Expr.fnWbF, Nud.fnWbF]

theorem fnArg_wbF (e : Expr) (b : Nat) : (Expr.mk (.expref e) []).wbF b = b := by
  simp only [Expr.wbF, Nud.wbF, ledsWbF]

theorem fnArg_fnWbF (e : Expr) (B : Nat) : (Expr.mk (.expref e) []).fnWbF B = e.wbF B := by
  simp only [Expr.fnWbF, Nud.fnWbF]

theorem numOfF64_within (n : Nat) (f : F64) (msg : String) (v : Val) (h : numOfF64 f msg = .ok v) :
    v.Within n := by
  unfold numOfF64 at h
  split at h <;> simp at h
  subst h; trivial

theorem foldInsert_len (kvs : List (String × Val)) : ∀ acc : List (String × Val),
    (kvs.foldl (fun m (kv : String × Val) => insertKV kv.1 kv.2 m) acc).length ≤ acc.length + kvs.length := by
  induction kvs with
  | nil => intro acc; simp
  | cons q kvs ih =>
    intro acc
    simp only [List.foldl_cons, List.length_cons]
    have := ih (insertKV q.1 q.2 acc)
    have := insertKV_len q.1 q.2 acc
    omega

theorem foldInsert_within {B : Nat} (kvs : List (String × Val)) : ∀ acc : List (String × Val),
    (∀ p ∈ kvs, p.2.Within B) → (∀ p ∈ acc, p.2.Within B) →
    ∀ p ∈ kvs.foldl (fun m (kv : String × Val) => insertKV kv.1 kv.2 m) acc, p.2.Within B := by
  induction kvs with
  | nil => intro acc _ h; exact h
  | cons q kvs ih =>
    intro acc hk ha
    exact ih _ (fun p hp => hk p (List.mem_cons_of_mem _ hp))
      (forall_mem_insertKV (hk q List.mem_cons_self) ha)

theorem mergeObjs_len {B : Nat} : ∀ (args : List Val) (acc : List (String × Val)),
    (∀ a ∈ args, a.Within B) → (mergeObjs acc args).length ≤ acc.length + args.length * B := by
  intro args
  induction args with
  | nil => intro acc _; simp [mergeObjs]
  | cons a args ih =>
    intro acc hk
    have hk' : ∀ a ∈ args, a.Within B := fun x hx => hk x (by simp [hx])
    simp only [List.length_cons, Nat.add_mul, Nat.one_mul]
    cases a with
    | obj kvs =>
      rw [mergeObjs]
      have h1 := (obj_within.mp (hk (.obj kvs) (by simp))).1
      have h2 := foldInsert_len kvs acc
      have h3 := ih (kvs.foldl (fun m (kv : String × Val) => insertKV kv.1 kv.2 m) acc) hk'
      exact Nat.le_trans h3 (by omega)
    | _ => rw [mergeObjs]; have := ih acc hk'; omega; simp

theorem mergeObjs_within {B : Nat} : ∀ (args : List Val) (acc : List (String × Val)),
    (∀ a ∈ args, a.Within B) → (∀ p ∈ acc, p.2.Within B) →
    ∀ p ∈ mergeObjs acc args, p.2.Within B := by
  intro args
  induction args with
  | nil => intro acc _ h; simpa [mergeObjs] using h
  | cons a args ih =>
    intro acc hk ha
    have hk' : ∀ a ∈ args, a.Within B := fun x hx => hk x (by simp [hx])
    cases a with
    | obj kvs =>
      rw [mergeObjs]
      apply ih _ hk'
      exact foldInsert_within kvs acc (obj_within.mp (hk (.obj kvs) (by simp))).2 ha
    | _ => rw [mergeObjs]; exact ih _ hk' ha; simp

/-- a builtin that does not evaluate expression references: the result is a scalar, an argument, a
part or rearrangement of an argument, a one-element array, or (merge) an object with at most as
many members as all arguments together -/
theorem pure_within {B R : Nat} (b : Builtin) (args : List Val) (v : Val)
    (ha : ∀ a ∈ args, a.Within B) (hB : B ≤ R) (h1 : 1 ≤ R)
    (hk : b = .merge → args.length * B ≤ R) (h : b.pure args = .ok v) : v.Within R := by
  unfold Builtin.pure at h
  split at h
  all_goals (try (exact numOfF64_within _ _ _ _ h))
  all_goals (try (simp only [Except.ok.injEq] at h; subst h))
  all_goals (try (trivial))
  case h_2 =>  -- avg
    split at h
    · simp only [Except.ok.injEq] at h; subst h; trivial
    · exact numOfF64_within _ _ _ _ h
  case h_6 =>  -- contains (string)
    split at h <;> (simp only [Except.ok.injEq] at h; subst h; trivial)
  case h_10 =>  -- keys
    have hh := obj_within.mp (ha _ (List.mem_singleton.mpr rfl))
    refine arr_within.mpr ⟨by rw [List.length_map]; omega, fun x hx => ?_⟩
    obtain ⟨p, _, rfl⟩ := List.mem_map.mp hx
    trivial
  case h_11 =>  -- values
    have hh := obj_within.mp (ha _ (List.mem_singleton.mpr rfl))
    refine arr_within.mpr ⟨by rw [List.length_map]; omega, fun x hx => ?_⟩
    obtain ⟨p, hp, rfl⟩ := List.mem_map.mp hx
    exact Val.Within.mono hB _ (hh.2 p hp)
  case h_15 =>  -- max
    have hh := arr_within.mp (ha _ (List.mem_singleton.mpr rfl))
    cases hf : foldMax _ with
    | none => trivial
    | some w => exact Val.Within.mono hB _ (hh.2 w (foldMax_mem _ _ hf))
  case h_16 =>  -- min
    have hh := arr_within.mp (ha _ (List.mem_singleton.mpr rfl))
    cases hf : foldMin _ with
    | none => trivial
    | some w => exact Val.Within.mono hB _ (hh.2 w (foldMin_mem _ _ hf))
  case h_17 =>  -- merge
    refine obj_within.mpr ⟨?_, fun p hp => ?_⟩
    · have := mergeObjs_len args [] ha
      simp only [List.length_nil, Nat.zero_add] at this
      have := hk rfl
      omega
    · exact Val.Within.mono hB _ (mergeObjs_within args [] ha (by simp) p hp)
  case h_18 =>  -- not_null
    cases hf : List.find? _ args with
    | none => trivial
    | some w => exact Val.Within.mono hB _ (ha w (List.mem_of_find?_eq_some hf))
  case h_19 =>  -- reverse (array)
    have hh := arr_within.mp (ha _ (List.mem_singleton.mpr rfl))
    refine arr_within.mpr ⟨by rw [List.length_reverse]; omega, fun x hx => ?_⟩
    exact Val.Within.mono hB _ (hh.2 x (List.mem_reverse.mp hx))
  case h_21 =>  -- sort
    have hh := arr_within.mp (ha _ (List.mem_singleton.mpr rfl))
    refine arr_within.mpr ⟨by unfold sortVals; rw [List.length_mergeSort]; omega, fun x hx => ?_⟩
    exact Val.Within.mono hB _ (hh.2 x ((sortVals_mem _ _).mp hx))
  case h_23 =>  -- to_array (array)
    exact Val.Within.mono hB _ (ha _ (List.mem_singleton.mpr rfl))
  case h_24 =>  -- to_array (other)
    refine arr_within.mpr ⟨by simpa using h1, fun x hx => ?_⟩
    rw [List.mem_singleton.mp hx]
    exact Val.Within.mono hB _ (ha _ (List.mem_singleton.mpr rfl))
  case h_26 =>  -- to_number (string)
    split at h <;> (simp only [Except.ok.injEq] at h; subst h; trivial)

theorem allVals_spec : ∀ (as : List SemFull.Arg) (vs : List Val), SemFull.allVals as = some vs →
    vs.length = as.length ∧ ∀ v ∈ vs, SemFull.Arg.val v ∈ as
  | [], vs, h => by simp [SemFull.allVals] at h; subst h; simp
  | .fn _ :: _, vs, h => by simp [SemFull.allVals] at h
  | .val w :: r, vs, h => by
    simp only [SemFull.allVals] at h
    cases hr : SemFull.allVals r with
    | none => simp [hr] at h
    | some ws =>
      simp only [hr, Option.map_some, Option.some.injEq] at h
      subst h
      obtain ⟨h1, h2⟩ := allVals_spec r ws hr
      refine ⟨by simp [h1], fun v hv => ?_⟩
      rcases List.mem_cons.mp hv with rfl | hv
      · simp
      · exact List.mem_cons_of_mem _ (h2 v hv)

theorem sortBy_within {B : Nat} {f : Val → Option Val} {xs : List Val} {v : Val}
    (hx : (Val.arr xs).Within B) (h : SemFull.sortBy f xs = some v) : v.Within B := by
  obtain ⟨hl, hm⟩ := arr_within.mp hx
  unfold SemFull.sortBy at h
  split at h
  · simp at h
  · rename_i ks _
    split at h
    · simp only [Option.some.injEq] at h; subst h
      refine arr_within.mpr ⟨?_, fun y hy => ?_⟩
      · unfold SemFull.sortByKey
        rw [List.length_map, List.length_mergeSort, List.length_zip]
        omega
      · obtain ⟨p, hp, rfl⟩ := List.mem_map.mp hy
        unfold SemFull.sortByKey at hp
        rw [List.mem_mergeSort] at hp
        obtain ⟨a, b⟩ := p
        exact hm _ (List.of_mem_zip hp).1
    · simp at h

theorem pickExtreme_within {B : Nat} (isMax : Bool) (xs ks : List Val)
    (hm : ∀ x ∈ xs, x.Within B) : (SemFull.pickExtreme isMax (xs.zip ks)).Within B := by
  cases hz : xs.zip ks with
  | nil => trivial
  | cons p ps =>
    simp only [SemFull.pickExtreme]
    have := foldl_pick_mem (fun (cand q : Val × Val) =>
      if (if isMax then Val.cmp q.2 cand.2 == .gt else Val.cmp q.2 cand.2 == .lt) then q else cand)
      (by intro a b
          cases (if isMax then Val.cmp b.2 a.2 == .gt else Val.cmp b.2 a.2 == .lt) <;> simp) ps p
    rw [← hz] at this
    generalize List.foldl _ p ps = r at this
    obtain ⟨a, b⟩ := r
    exact hm _ (List.of_mem_zip this).1

theorem extremeBy_within {B : Nat} {isMax : Bool} {f : Val → Option Val} {xs : List Val} {v : Val}
    (hx : (Val.arr xs).Within B) (h : SemFull.extremeBy isMax f xs = some v) : v.Within B := by
  unfold SemFull.extremeBy at h
  split at h
  · simp at h
  · split at h
    · simp only [Option.some.injEq] at h; subst h
      exact pickExtreme_within _ _ _ (arr_within.mp hx).2
    · simp at h

theorem builtinOf_merge {name : String} (h : SemFull.builtinOf name = some .merge) :
    name = "merge" := by
  have := lookup_mem_names _ _ _ h
  simpa [SemFull.names] using this

/-- the value of a builtin on evaluated arguments: values within `B`, functions mapping values
within `B` to values within `B'`; only `merge` can exceed `max 1 B'` -/
theorem apply_within {B B' R : Nat} (hBB : B ≤ B') (b : Builtin) (as : List SemFull.Arg)
    (hv : ∀ v, SemFull.Arg.val v ∈ as → v.Within B)
    (hf : ∀ f, SemFull.Arg.fn f ∈ as → ∀ x : Val, x.Within B → ∀ y, f x = some y → y.Within B')
    (hR1 : max 1 B' ≤ R) (hk : b = .merge → as.length * B' ≤ R)
    (v : Val) (h : SemFull.apply b as = some v) : v.Within R := by
  have hR : B' ≤ R := by omega
  have hpure : ∀ b' : Builtin, b' = b → (SemFull.allVals as).bind (SemFull.pureFn b') = some v →
      v.Within R := by
    intro b' hb' h
    cases ha : SemFull.allVals as with
    | none => simp [ha] at h
    | some vs =>
      simp only [ha, Option.bind_some] at h
      obtain ⟨h1, h2⟩ := allVals_spec as vs ha
      unfold SemFull.pureFn at h
      split at h
      · simp at h
      · split at h
        · rename_i w hw
          simp only [Option.some.injEq] at h; subst h
          exact pure_within (B := B') b' vs _ (fun a ha' => Val.Within.mono hBB _ (hv a (h2 a ha')))
            hR (by omega) (fun hm => by rw [h1]; exact hk (hb' ▸ hm)) hw
        · simp at h
  have hby : ∀ p, SemFull.byShape as = some p → (Val.arr p.2).Within B := fun p hp =>
    hv _ (by rw [byShape_eq hp]; simp)
  cases b
  case map =>
    simp only [SemFull.apply] at h
    cases hs : SemFull.mapShape as with
    | none => simp [hs] at h
    | some p =>
      simp only [hs, Option.bind_some] at h
      have has := mapShape_eq hs
      have hxs := arr_within.mp (hv (.arr p.2) (by rw [has]; simp))
      have hfp := hf p.1 (by rw [has]; simp)
      cases hm : Sem.optMapM p.1 p.2 with
      | none => simp [hm] at h
      | some ys =>
        simp only [hm, Option.map_some, Option.some.injEq] at h; subst h
        refine Val.Within.mono hR _ (arr_within.mpr ⟨?_, fun y hy => ?_⟩)
        · rw [optMapM_len hm]; omega
        · obtain ⟨x, hx, hfx⟩ := optMapM_mem hm y hy
          exact hfp x (hxs.2 x hx) y hfx
  case sortBy =>
    simp only [SemFull.apply] at h
    cases hs : SemFull.byShape as with
    | none => simp [hs] at h
    | some p =>
      simp only [hs, Option.bind_some] at h
      exact Val.Within.mono (by omega) _ (sortBy_within (hby p hs) h)
  case maxBy =>
    simp only [SemFull.apply] at h
    cases hs : SemFull.byShape as with
    | none => simp [hs] at h
    | some p =>
      simp only [hs, Option.bind_some] at h
      exact Val.Within.mono (by omega) _ (extremeBy_within (hby p hs) h)
  case minBy =>
    simp only [SemFull.apply] at h
    cases hs : SemFull.byShape as with
    | none => simp [hs] at h
    | some p =>
      simp only [hs, Option.bind_some] at h
      exact Val.Within.mono (by omega) _ (extremeBy_within (hby p hs) h)
  all_goals exact hpure _ rfl (by simpa only [SemFull.apply] using h)

/-! the statements of the mutual induction (`nudF_w` … `argsF_w`) as propositions, needed to state
its non-recursive steps `expr_mk_w`, `args_cons_w`, `call_w` -/
def NudW (h : Nud) : Prop := ∀ (b : Nat) (d : Val), d.Within b → h.wbF b ≤ CAP →
    SafeF.nud d h ∧ ∀ v, SemFull.nud d h = some v → v.Within (h.wbF b)
def LedsW (ls : List Led) : Prop := ∀ (b : Nat) (d lv : Val), d.Within b → lv.Within b →
    ledsWbF b ls ≤ CAP →
    SafeF.leds d lv ls ∧ ∀ v, SemFull.leds d lv ls = some v → v.Within (ledsWbF b ls)
def ExprW (e : Expr) : Prop := ∀ (b : Nat) (d : Val), d.Within b → e.wbF b ≤ CAP →
    SafeF.expr d e ∧ ∀ v, SemFull.expr d e = some v → v.Within (e.wbF b)
/-- the arguments of a call: the evaluated ones at the current node `d` of width ≤ `b`; the bodies
of the `&e` ones at an element `x` of width ≤ `B` -/
def ArgsW (es : List Expr) : Prop :=
  (∀ (b : Nat) (d : Val), d.Within b → exprsWbF b es ≤ CAP →
    SafeF.args d es ∧ ∀ as, SemFull.args d es = some as →
      as.length = es.length ∧ ∀ v, SemFull.Arg.val v ∈ as → v.Within (exprsWbF b es)) ∧
  (∀ (B : Nat) (x : Val), x.Within B → fnsWbF B es ≤ CAP →
    SafeF.fnArgs x es ∧ ∀ d as, SemFull.args d es = some as →
      ∀ f, SemFull.Arg.fn f ∈ as → ∀ y, f x = some y → y.Within (fnsWbF B es))

theorem expr_mk_w {h : Nud} {ls : List Led} (ihn : NudW h) (ihl : LedsW ls) : ExprW (.mk h ls) := by
  intro b d hd hb
  exact seq_w (ihn b d hd) (fun v => ihl (h.wbF b) d v (Val.Within.mono (Nud.le_wbF b h) d hd))
    (ledsWbF_le ls _) hb

theorem args_nil_w : ArgsW [] := by
  refine ⟨fun b d hd hb => ⟨trivial, fun as has => ?_⟩, fun B x hx hb => ⟨trivial, fun d as has => ?_⟩⟩
  · simp [SemFull.args] at has; subst has; simp
  · simp [SemFull.args] at has; subst has; simp

theorem args_cons_w (h : Nud) (ls : List Led) (rest : List Expr) (ihn : NudW h)
    (ihf : ∀ e, h = .expref e → ExprW e) (ihl : LedsW ls) (ihr : ArgsW rest) :
    ArgsW (.mk h ls :: rest) := by
  rcases fnArg_dec h ls with ⟨e, rfl, rfl⟩ | hne
  · have ihe := ihf e rfl
    refine ⟨fun b d hd hb => ?_, fun B x hx hb => ?_⟩
    · simp only [exprsWbF, fnArg_wbF] at hb ⊢
      have hle := exprsWbF_le rest b
      obtain ⟨h1, h2⟩ := ihr.1 b d hd (by omega)
      rw [SafeF.args.eq_2, SemFull.args.eq_2]
      refine ⟨h1, fun as has => ?_⟩
      cases hr : SemFull.args d rest with
      | none => simp [hr] at has
      | some as' =>
        simp only [hr, Option.map_some, Option.some.injEq] at has
        subst has
        obtain ⟨h3, h4⟩ := h2 as' hr
        refine ⟨by simp [h3], fun v hv => ?_⟩
        have : SemFull.Arg.val v ∈ as' := by simpa using hv
        exact Val.Within.mono (by omega) _ (h4 v this)
    · simp only [fnsWbF, fnArg_fnWbF] at hb ⊢
      have hle := fnsWbF_le rest B
      obtain ⟨h1, h2⟩ := ihr.2 B x hx (by omega)
      obtain ⟨h5, h6⟩ := ihe B x hx (by omega)
      rw [SafeF.fnArgs.eq_2]
      refine ⟨⟨h5, h1⟩, fun d as has f hfm y hy => ?_⟩
      rw [SemFull.args.eq_2] at has
      cases hr : SemFull.args d rest with
      | none => simp [hr] at has
      | some as' =>
        simp only [hr, Option.map_some, Option.some.injEq] at has
        subst has
        rcases List.mem_cons.mp hfm with heq | hfm
        · simp only [SemFull.Arg.fn.injEq] at heq; subst heq
          exact Val.Within.mono (by omega) _ (h6 y hy)
        · exact Val.Within.mono (by omega) _ (h2 d as' hr f hfm y hy)
  · have ihe : ExprW (.mk h ls) := expr_mk_w ihn ihl
    refine ⟨fun b d hd hb => ?_, fun B x hx hb => ?_⟩
    · simp only [exprsWbF] at hb ⊢
      obtain ⟨h1, h2⟩ := ihr.1 b d hd (by omega)
      obtain ⟨h5, h6⟩ := ihe b d hd (by omega)
      rw [SafeF.args.eq_3 _ _ _ hne, SemFull.args.eq_3 _ _ _ hne]
      refine ⟨⟨h5, h1⟩, fun as has => ?_⟩
      cases he : SemFull.expr d (.mk h ls) with
      | none => simp [he] at has
      | some w =>
        simp only [he] at has
        cases hr : SemFull.args d rest with
        | none => simp [hr] at has
        | some as' =>
          simp only [hr, Option.map_some, Option.some.injEq] at has
          subst has
          obtain ⟨h3, h4⟩ := h2 as' hr
          refine ⟨by simp [h3], fun v hv => ?_⟩
          rcases List.mem_cons.mp hv with heq | hv
          · cases heq; exact Val.Within.mono (by omega) _ (h6 w he)
          · exact Val.Within.mono (by omega) _ (h4 v hv)
    · simp only [fnsWbF, fnWbF_other hne] at hb ⊢
      obtain ⟨h1, h2⟩ := ihr.2 B x hx (by omega)
      rw [SafeF.fnArgs.eq_3 _ _ _ hne]
      refine ⟨h1, fun d as has f hfm y hy => ?_⟩
      rw [SemFull.args.eq_3 _ _ _ hne] at has
      cases he : SemFull.expr d (.mk h ls) with
      | none => simp [he] at has
      | some w =>
        simp only [he] at has
        cases hr : SemFull.args d rest with
        | none => simp [hr] at has
        | some as' =>
          simp only [hr, Option.map_some, Option.some.injEq] at has
          subst has
          have : SemFull.Arg.fn f ∈ as' := by simpa using hfm
          exact Val.Within.mono (by omega) _ (h2 d as' hr f this y hy)

theorem fnDomain_mem {as : List SemFull.Arg} {x : Val} (h : x ∈ fnDomain (some as)) :
    ∃ xs, SemFull.Arg.val (.arr xs) ∈ as ∧ x ∈ xs := by
  unfold fnDomain at h
  split at h
  · rename_i xs heq; simp only [Option.some.injEq] at heq; subst heq; exact ⟨_, by simp, h⟩
  · rename_i xs heq; simp only [Option.some.injEq] at heq; subst heq; exact ⟨_, by simp, h⟩
  · simp at h

theorem call_w (name : String) (es : List Expr) (ih : ArgsW es) : NudW (.call name es) := by
  intro b d hd hb
  simp only [Nud.wbF] at hb ⊢
  have hle := exprsWbF_le es b
  have hle' := fnsWbF_le es (exprsWbF b es)
  have hcap : fnsWbF (exprsWbF b es) es ≤ CAP := by split at hb <;> omega
  obtain ⟨hA1, hA2⟩ := ih.1 b d hd (by omega)
  have hF := fun x hx => ih.2 (exprsWbF b es) x hx hcap
  simp only [SafeF.nud, SemFull.nud]
  refine ⟨⟨hA1, fun x hx => ?_⟩, fun v hv => ?_⟩
  · cases hargs : SemFull.args d es with
    | none => rw [hargs] at hx; simp [fnDomain] at hx
    | some as =>
      rw [hargs] at hx
      obtain ⟨xs, h1, h2⟩ := fnDomain_mem hx
      exact (hF x ((arr_within.mp ((hA2 as hargs).2 _ h1)).2 x h2)).1
  · cases hargs : SemFull.args d es with
    | none => simp [hargs, SemFull.call] at hv
    | some as =>
      simp only [hargs, SemFull.call] at hv
      cases hbi : SemFull.builtinOf name with
      | none => simp [hbi] at hv
      | some bi =>
        simp only [hbi] at hv
        refine apply_within hle' bi as (hA2 as hargs).2
          (fun f hfm x hx y hy => (hF x hx).2 d as hargs f hfm y hy) ?_ (fun hm => ?_) v hv
        · split <;> omega
        · subst hm
          have := builtinOf_merge hbi
          subst this
          rw [(hA2 as hargs).1]
          simp only [beq_self_eq_true, if_true]
          omega


mutual
theorem nudF_w : ∀ (h : Nud) (b : Nat) (d : Val), d.Within b → h.wbF b ≤ CAP →
    SafeF.nud d h ∧ ∀ v, SemFull.nud d h = some v → v.Within (h.wbF b)
  | .at, b, d, hd, _ => ⟨trivial, fun v hv => by cases hv; exact hd⟩
  | .field s, b, d, hd, _ => ⟨trivial, fun v hv => by cases hv; exact field_within s hd⟩
  | .qfield s, b, d, hd, _ => ⟨trivial, fun v hv => by cases hv; exact field_within s hd⟩
  | .idx n, b, d, hd, _ => ⟨trivial, fun v hv => by cases hv; exact index_within n hd⟩
  | .call name es, b, d, hd, hb => call_w name es (argsF_w es) b d hd hb
  | .expref _, b, d, hd, _ => ⟨trivial, fun v hv => nomatch hv⟩
  | .lit w, b, d, hd, _ => ⟨trivial, fun v hv => by
      cases hv; exact Val.Within.mono (Nat.le_max_right _ _) _ (Val.within_width _)⟩
  | .paren e, b, d, hd, hb => mono_w (exprF_w e b d hd) hb
  | .not e, b, d, hd, hb => map_w (exprF_w e b d hd) (fun _ => trivial) hb
  | .mlist es, b, d, hd, hb => mlist_w (exprsF_w es b d hd) hb
  | .mhash kvs, b, d, hd, hb => mhash_w (kvsF_w kvs b d hd) hb
  | .wildIdx r, b, d, hd, hb => arrProj_w (rhsF_w r b) (arr_sel hd) hb
  | .star r, b, d, hd, hb => objProj_w (rhsF_w r b) hd hb
  | .flatten r, b, d, hd, hb => arrProj_w (rhsF_w r b) (flatten_sel hd) hb
  | .slice h r, b, d, hd, hb => sliceProj_w (rhsF_w r b) hd hb
  | .filter p r, b, d, hd, hb => arrProj_w (filt_w (exprF_w p b) (rhsF_w r b)) (arr_sel hd) hb
theorem ledF_w : ∀ (l : Led) (b : Nat) (d lv : Val), d.Within b → lv.Within b → l.wbF b ≤ CAP →
    SafeF.led d lv l ∧ ∀ v, SemFull.led d lv l = some v → v.Within (l.wbF b)
  | .callDev _, b, d, lv, hd, hl, _ => ⟨trivial, fun v hv => nomatch hv⟩
  | .index n, b, d, lv, hd, hl, _ => ⟨trivial, fun v hv => by cases hv; exact index_within n hl⟩
  | .dot dr, b, d, lv, hd, hl, hb => mono_w (dotF_w dr b lv hl) hb
  | .pipe e, b, d, lv, hd, hl, hb => mono_w (exprF_w e b lv hl) hb
  | .or e, b, d, lv, hd, hl, hb => orand_w (exprF_w e b d hd) hl hb
  | .and e, b, d, lv, hd, hl, hb => orand_w (exprF_w e b d hd) hl hb
  | .cmp o e, b, d, lv, hd, hl, hb => map_w (exprF_w e b d hd) (fun _ => cmpVal_within _ _ _ _) hb
  | .wildIdxL r, b, d, lv, hd, hl, hb => arrProj_w (rhsF_w r b) (arr_sel hl) hb
  | .dotStar r, b, d, lv, hd, hl, hb => objProj_w (rhsF_w r b) hl hb
  | .flattenL r, b, d, lv, hd, hl, hb => arrProj_w (rhsF_w r b) (flatten_sel hl) hb
  | .sliceL h r, b, d, lv, hd, hl, hb => sliceProj_w (rhsF_w r b) hl hb
  | .filterL p r, b, d, lv, hd, hl, hb => arrProj_w (filt_w (exprF_w p b) (rhsF_w r b)) (arr_sel hl) hb
theorem rhsF_w : ∀ (r : Rhs) (b : Nat) (el : Val), el.Within b → r.wbF b ≤ CAP →
    SafeF.rhs el r ∧ ∀ v, SemFull.rhs el r = some v → v.Within (r.wbF b)
  | .none, b, el, hel, _ => ⟨trivial, fun v hv => by cases hv; exact hel⟩
  | .dot dr, b, el, hel, hb => mono_w (dotF_w dr b el hel) hb
  | .bracket e, b, el, hel, hb => mono_w (exprF_w e b el hel) hb
theorem dotF_w : ∀ (dr : DotRhs) (b : Nat) (el : Val), el.Within b → dr.wbF b ≤ CAP →
    SafeF.dot el dr ∧ ∀ v, SemFull.dot el dr = some v → v.Within (dr.wbF b)
  | .mlist es, b, el, hel, hb => mlist_w (exprsF_w es b el hel) hb
  | .expr e, b, el, hel, hb => mono_w (exprF_w e b el hel) hb
theorem exprF_w : ∀ e : Expr, ExprW e
  | .mk h ls => expr_mk_w (nudF_w h) (ledsF_w ls)
theorem ledsF_w : ∀ (ls : List Led) (b : Nat) (d lv : Val), d.Within b → lv.Within b →
    ledsWbF b ls ≤ CAP →
    SafeF.leds d lv ls ∧ ∀ v, SemFull.leds d lv ls = some v → v.Within (ledsWbF b ls)
  | [], b, d, lv, hd, hl, _ => ⟨trivial, fun v hv => by cases hv; exact hl⟩
  | l :: ls, b, d, lv, hd, hl, hb =>
    seq_w (ledF_w l b d lv hd hl) (fun v => ledsF_w ls (l.wbF b) d v (Val.Within.mono (Led.le_wbF b l) d hd))
      (ledsWbF_le ls _) hb
theorem exprsF_w : ∀ (es : List Expr) (b : Nat) (d : Val), d.Within b → exprsWbF b es ≤ CAP →
    SafeF.exprs d es ∧ ∀ vs, SemFull.exprs d es = some vs →
      vs.length = es.length ∧ ∀ v ∈ vs, v.Within (exprsWbF b es)
  | [], b, d, hd, _ => ⟨trivial, fun vs hv => by cases hv; simp⟩
  | e :: es, b, d, hd, hb => cons_w (exprF_w e b d hd) (exprsF_w es b d hd) hb
theorem kvsF_w : ∀ (kvs : List (Bool × String × Expr)) (b : Nat) (d : Val), d.Within b →
    kvsWbF b kvs ≤ CAP →
    SafeF.kvs d kvs ∧ ∀ (W : Nat) (acc m : List (String × Val)), kvsWbF b kvs ≤ W →
      (∀ p ∈ acc, p.2.Within W) → SemFull.kvs' d kvs acc = some m →
      m.length ≤ acc.length + kvs.length ∧ ∀ p ∈ m, p.2.Within W
  | [], b, d, hd, _ => ⟨trivial, fun W acc m _ hacc hm => by cases hm; exact ⟨Nat.le_refl _, hacc⟩⟩
  | (_, k, e) :: r, b, d, hd, hb => kvcons_w (exprF_w e b d hd) (kvsF_w r b d hd) hb
theorem nud_fnF_w : ∀ (h : Nud) (e : Expr), h = .expref e → ExprW e
  | _, e, rfl => exprF_w e
theorem argsF_w : ∀ es : List Expr, ArgsW es
  | [] => args_nil_w
  | .mk h ls :: rest =>
    args_cons_w h ls rest (nudF_w h) (nud_fnF_w h) (ledsF_w ls) (argsF_w rest)
end

/-! ### on core expressions the bound is the bound of `SemWidth.lean` -/
mutual
theorem Nud.wbF_core : ∀ h : Nud, Sem.nudCore h = true → ∀ b : Nat, h.wbF b = h.wb b
  | .at, _, _ => rfl
  | .field _, _, _ => rfl
  | .qfield _, _, _ => rfl
  | .idx _, _, _ => rfl
  | .lit _, _, _ => rfl
  | .call _ _, hc, _ => by simp [Sem.nudCore] at hc
  | .expref _, hc, _ => by simp [Sem.nudCore] at hc
  | .paren e, hc, b => by
    simp only [Nud.wbF, Nud.wb, Expr.wbF_core e hc]
  | .not e, hc, b => by
    simp only [Nud.wbF, Nud.wb, Expr.wbF_core e hc]
  | .mlist es, hc, b => by
    simp only [Nud.wbF, Nud.wb, exprsWbF_core es hc]
  | .mhash kvs, hc, b => by
    simp only [Nud.wbF, Nud.wb, kvsWbF_core kvs hc]
  | .wildIdx r, hc, b => by
    simp only [Nud.wbF, Nud.wb, Rhs.wbF_core r hc]
  | .star r, hc, b => by
    simp only [Nud.wbF, Nud.wb, Rhs.wbF_core r hc]
  | .slice _ r, hc, b => by
    simp only [Nud.wbF, Nud.wb, Rhs.wbF_core r hc]
  | .flatten r, hc, b => by
    simp only [Nud.wbF, Nud.wb, Rhs.wbF_core r hc]
  | .filter p r, hc, b => by
    simp only [Sem.nudCore, Bool.and_eq_true] at hc
    simp only [Nud.wbF, Nud.wb, Expr.wbF_core p hc.1, Rhs.wbF_core r hc.2]
theorem Led.wbF_core : ∀ l : Led, Sem.ledCore l = true → ∀ b : Nat, l.wbF b = l.wb b
  | .index _, _, _ => rfl
  | .callDev _, _, _ => rfl
  | .dot dr, hc, b => by
    simp only [Led.wbF, Led.wb, DotRhs.wbF_core dr hc]
  | .pipe e, hc, b => by
    simp only [Led.wbF, Led.wb, Expr.wbF_core e hc]
  | .or e, hc, b => by
    simp only [Led.wbF, Led.wb, Expr.wbF_core e hc]
  | .and e, hc, b => by
    simp only [Led.wbF, Led.wb, Expr.wbF_core e hc]
  | .cmp _ e, hc, b => by
    simp only [Led.wbF, Led.wb, Expr.wbF_core e hc]
  | .wildIdxL r, hc, b => by
    simp only [Led.wbF, Led.wb, Rhs.wbF_core r hc]
  | .dotStar r, hc, b => by
    simp only [Led.wbF, Led.wb, Rhs.wbF_core r hc]
  | .sliceL _ r, hc, b => by
    simp only [Led.wbF, Led.wb, Rhs.wbF_core r hc]
  | .flattenL r, hc, b => by
    simp only [Led.wbF, Led.wb, Rhs.wbF_core r hc]
  | .filterL p r, hc, b => by
    simp only [Sem.ledCore, Bool.and_eq_true] at hc
    simp only [Led.wbF, Led.wb, Expr.wbF_core p hc.1, Rhs.wbF_core r hc.2]
theorem Rhs.wbF_core : ∀ r : Rhs, Sem.rhsCore r = true → ∀ b : Nat, r.wbF b = r.wb b
  | .none, _, _ => rfl
  | .dot dr, hc, b => by
    simp only [Rhs.wbF, Rhs.wb, DotRhs.wbF_core dr hc]
  | .bracket e, hc, b => by
    simp only [Rhs.wbF, Rhs.wb, Expr.wbF_core e hc]
theorem DotRhs.wbF_core : ∀ dr : DotRhs, Sem.dotCore dr = true → ∀ b : Nat, dr.wbF b = dr.wb b
  | .mlist es, hc, b => by
    simp only [DotRhs.wbF, DotRhs.wb, exprsWbF_core es hc]
  | .expr e, hc, b => by
    simp only [DotRhs.wbF, DotRhs.wb, Expr.wbF_core e hc]
/-- on the core language `wbF` is `wb` -/
theorem Expr.wbF_core : ∀ (e : Expr), Sem.exprCore e = true → ∀ b : Nat, e.wbF b = e.wb b
  | .mk h ls, hc, b => by
    simp only [Sem.exprCore, Bool.and_eq_true] at hc
    simp only [Expr.wbF, Expr.wb, Nud.wbF_core h hc.1, ledsWbF_core ls hc.2]
theorem ledsWbF_core : ∀ ls : List Led, Sem.ledsCore ls = true → ∀ b : Nat, ledsWbF b ls = ledsWb b ls
  | [], _, _ => rfl
  | l :: ls, hc, b => by
    simp only [Sem.ledsCore, Bool.and_eq_true] at hc
    simp only [ledsWbF, ledsWb, Led.wbF_core l hc.1, ledsWbF_core ls hc.2]
theorem exprsWbF_core : ∀ es : List Expr, Sem.exprsCore es = true → ∀ b : Nat,
    exprsWbF b es = exprsWb b es
  | [], _, _ => rfl
  | e :: es, hc, b => by
    simp only [Sem.exprsCore, Bool.and_eq_true] at hc
    simp only [exprsWbF, exprsWb, Expr.wbF_core e hc.1, exprsWbF_core es hc.2]
theorem kvsWbF_core : ∀ kvs : List (Bool × String × Expr), Sem.kvsCore kvs = true → ∀ b : Nat,
    kvsWbF b kvs = kvsWb b kvs
  | [], _, _ => rfl
  | (_, _, e) :: r, hc, b => by
    simp only [Sem.kvsCore, Bool.and_eq_true] at hc
    simp only [kvsWbF, kvsWb, Expr.wbF_core e hc.1, kvsWbF_core r hc.2]
end


#print axioms JmesVerif.exprF_w
#print axioms JmesVerif.Expr.le_wbF
#print axioms JmesVerif.Expr.wbF_core

end JmesVerif
