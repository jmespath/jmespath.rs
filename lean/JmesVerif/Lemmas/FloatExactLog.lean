import JmesVerif.Lemmas.FloatExactNum
/-!
# `JsonPrint.ilog10` is the decimal logarithm (floor) on the range of finite doubles

The printer model estimates `⌊log10 q⌋` from `⌊log2 q⌋ · 30103 / 100000` and corrects the estimate by at
most eight steps in each direction.  For `-1074 ≤ ⌊log2 q⌋ ≤ 1023` (every non-zero finite double) the
estimate is within that window (checked for each of the 2098 binary exponents by kernel evaluation on
natural numbers), hence `10^(ilog10 q) ≤ q < 10^(ilog10 q + 1)`.
-/
namespace JmesVerif
namespace FloatExact
open F64

/-- `10^a ≤ 2^b` and `2^b ≤ 10^a` for integer exponents of either sign, decided over ℕ with the negative powers moved
to the other side -/
def le10_2 (a b : Int) : Bool := decide (10 ^ a.toNat * 2 ^ (-b).toNat ≤ 2 ^ b.toNat * 10 ^ (-a).toNat)
def le2_10 (b a : Int) : Bool := decide (2 ^ b.toNat * 10 ^ (-a).toNat ≤ 10 ^ a.toNat * 2 ^ (-b).toNat)

/-- the estimate for binary exponent `i - 1074` is within the correction window -/
def estOk (i : Nat) : Bool :=
  let L : Int := (i : Int) - 1074
  let est : Int := (L * 30103) / 100000
  le10_2 (est - 8) L && le2_10 (L + 1) (est + 9)

/-- a power with an integer exponent, cleared of its denominator -/
theorem zpow_split (b : Nat) (hb : (b : Rat) ≠ 0) (a : Int) :
    (b : Rat) ^ a * ((b ^ (-a).toNat : Nat) : Rat) = ((b ^ a.toNat : Nat) : Rat) := by
  by_cases h : 0 ≤ a
  · obtain ⟨n, rfl⟩ := Int.eq_ofNat_of_zero_le h
    have : (-(n : Int)).toNat = 0 := by omega
    rw [this, Rat.zpow_natCast]; simp
  · obtain ⟨n, hn⟩ : ∃ n : Nat, a = -(n : Int) := ⟨(-a).toNat, by omega⟩
    subst hn
    have h1 : (-(n : Int)).toNat = 0 := by omega
    have h2 : (- -(n : Int)).toNat = n := by omega
    rw [h1, h2, Rat.natCast_pow, ← Rat.zpow_natCast, ← Rat.zpow_add hb, Int.add_left_neg]; simp

theorem p10_split (a : Int) :
    JsonPrint.pow10 a * ((10 ^ (-a).toNat : Nat) : Rat) = ((10 ^ a.toNat : Nat) : Rat) := by
  rw [p10_eq_zpow]; exact zpow_split 10 (by decide) a

theorem pow2_split (a : Int) :
    pow2 a * ((2 ^ (-a).toNat : Nat) : Rat) = ((2 ^ a.toNat : Nat) : Rat) := by
  rw [pow2_eq_zpow]; exact zpow_split 2 (by decide) a

theorem natCast_pow_pos (b n : Nat) (hb : 0 < b) : (0 : Rat) < ((b ^ n : Nat) : Rat) := by
  have : 0 < b ^ n := Nat.pow_pos hb
  exact_mod_cast this

/-- comparing two rationals given as fractions of naturals, by cross-multiplication -/
theorem le_of_cross {x y : Rat} {A B C D : Nat} (hx : x * (C : Rat) = A) (hy : y * (D : Rat) = B)
    (hC : (0 : Rat) < C) (hD : (0 : Rat) < D) (h : A * D ≤ B * C) : x ≤ y := by
  have h' : ((A * D : Nat) : Rat) ≤ ((B * C : Nat) : Rat) := by exact_mod_cast h
  rw [Rat.natCast_mul, Rat.natCast_mul, ← hx, ← hy] at h'
  apply Rat.le_of_mul_le_mul_right (c := (C : Rat) * (D : Rat)) _ (Rat.mul_pos hC hD)
  grind

theorem p10_le_pow2_of {a b : Int} (h : le10_2 a b = true) : JsonPrint.pow10 a ≤ pow2 b :=
  le_of_cross (p10_split a) (pow2_split b) (natCast_pow_pos 10 _ (by decide))
    (natCast_pow_pos 2 _ (by decide)) (of_decide_eq_true h)

theorem pow2_le_p10_of {a b : Int} (h : le2_10 b a = true) : pow2 b ≤ JsonPrint.pow10 a :=
  le_of_cross (pow2_split b) (p10_split a) (natCast_pow_pos 2 _ (by decide))
    (natCast_pow_pos 10 _ (by decide)) (of_decide_eq_true h)

/-- the estimate window, for every binary exponent of a finite double -/
theorem est_window {L : Int} (h1 : -1074 ≤ L) (h2 : L ≤ 1023) :
    JsonPrint.pow10 (L * 30103 / 100000 - 8) ≤ pow2 L ∧
    pow2 (L + 1) ≤ JsonPrint.pow10 (L * 30103 / 100000 + 9) := by
  have hall : (List.range 2098).all estOk = true := by decide +kernel
  rw [List.all_eq_true] at hall
  have := hall (L + 1074).toNat (by rw [List.mem_range]; omega)
  have hL : (((L + 1074).toNat : Nat) : Int) - 1074 = L := by omega
  simp only [estOk, hL, Bool.and_eq_true] at this
  exact ⟨p10_le_pow2_of this.1, pow2_le_p10_of this.2⟩

theorem down_spec (q : Rat) : ∀ (fuel : Nat) (e : Int),
    JsonPrint.ilog10.down q fuel e ≤ e ∧ e - fuel ≤ JsonPrint.ilog10.down q fuel e ∧
    (JsonPrint.pow10 (JsonPrint.ilog10.down q fuel e) ≤ q ∨ JsonPrint.ilog10.down q fuel e = e - fuel) ∧
    (JsonPrint.ilog10.down q fuel e < e → q < JsonPrint.pow10 (JsonPrint.ilog10.down q fuel e + 1)) := by
  intro fuel
  induction fuel with
  | zero => intro e; simp [JsonPrint.ilog10.down]
  | succ n ih =>
    intro e
    rw [JsonPrint.ilog10.down]
    split
    · rename_i hlt
      obtain ⟨a, b, c, d⟩ := ih (e - 1)
      refine ⟨by omega, by omega, ?_, ?_⟩
      · rcases c with c | c
        · exact Or.inl c
        · right; omega
      · intro _
        by_cases hr : JsonPrint.ilog10.down q n (e - 1) < e - 1
        · exact d hr
        · have : JsonPrint.ilog10.down q n (e - 1) + 1 = e := by omega
          rw [this]; exact hlt
    · rename_i hge
      refine ⟨by omega, by omega, Or.inl (by grind), fun h => absurd h (by omega)⟩

theorem up_spec (q : Rat) : ∀ (fuel : Nat) (e : Int), JsonPrint.pow10 e ≤ q →
    JsonPrint.pow10 (JsonPrint.ilog10.up q fuel e) ≤ q ∧ e ≤ JsonPrint.ilog10.up q fuel e ∧
    (q < JsonPrint.pow10 (JsonPrint.ilog10.up q fuel e + 1) ∨ JsonPrint.ilog10.up q fuel e = e + fuel) := by
  intro fuel
  induction fuel with
  | zero => intro e h; simp [JsonPrint.ilog10.up, h]
  | succ n ih =>
    intro e h
    rw [JsonPrint.ilog10.up]
    split
    · rename_i hle
      obtain ⟨a, b, c⟩ := ih (e + 1) hle
      refine ⟨a, by omega, ?_⟩
      rcases c with c | c
      · exact Or.inl c
      · right; omega
    · rename_i hlt
      exact ⟨h, by omega, Or.inl (by grind)⟩

/-- **`ilog10` is `⌊log10 q⌋`** for every positive rational in the binary range of finite doubles -/
theorem ilog10_spec {q : Rat} (hq : 0 < q) (h1 : -1074 ≤ ilog2 q) (h2 : ilog2 q ≤ 1023) :
    JsonPrint.pow10 (JsonPrint.ilog10 q) ≤ q ∧ q < JsonPrint.pow10 (JsonPrint.ilog10 q + 1) := by
  obtain ⟨l1, l2⟩ := ilog2_spec hq
  obtain ⟨w1, w2⟩ := est_window h1 h2
  unfold JsonPrint.ilog10
  generalize ilog2 q * 30103 / 100000 = est at *
  simp only
  obtain ⟨a, b, c, d⟩ := down_spec q 8 est
  have hlo : JsonPrint.pow10 (JsonPrint.ilog10.down q 8 est) ≤ q := by
    rcases c with c | c
    · exact c
    · have c' : JsonPrint.ilog10.down q 8 est = est - 8 := by omega
      rw [c']; grind
  obtain ⟨u1, u2, u3⟩ := up_spec q 8 _ hlo
  refine ⟨u1, ?_⟩
  rcases u3 with u3 | u3
  · exact u3
  · by_cases hd : JsonPrint.ilog10.down q 8 est < est
    · have x := d hd
      have y := p10_le_p10 (a := JsonPrint.ilog10.down q 8 est + 1)
        (b := JsonPrint.ilog10.up q 8 (JsonPrint.ilog10.down q 8 est)) (by omega)
      grind
    · have : JsonPrint.ilog10.up q 8 (JsonPrint.ilog10.down q 8 est) + 1 = est + 9 := by omega
      rw [this]; grind

end FloatExact
end JmesVerif

#print axioms JmesVerif.FloatExact.ilog10_spec
