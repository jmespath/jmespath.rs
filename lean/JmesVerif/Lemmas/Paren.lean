import JmesVerif.Spec.Paren
/-!
`Paren.parenthesize` leaves `ast` unchanged: one mutual induction over the functions of `Spec/Paren.lean`,
with `pSpine` generalised over the accumulated left operand (`pSpine_ast`).
-/
namespace JmesVerif
open Paren

theorem wrap_ast (e : Expr) : (wrap e).ast = e.ast := by
  unfold wrap
  split
  · rfl
  · simp [Expr.ast, Nud.ast, ledsAst]

theorem ledsAst_append (left : Ast) (a b : List Led) :
    ledsAst left (a ++ b) = ledsAst (ledsAst left a) b := by
  induction a generalizing left with
  | nil => simp [ledsAst]
  | cons x xs ih => simp [ledsAst, ih]

mutual
theorem pExpr_ast : ∀ e : Expr, (pExpr e).ast = e.ast
  | .mk h ls => by
    simp only [pExpr]
    rw [pSpine_ast _ ls]
    simp [Expr.ast, ledsAst, pNud_ast h]
theorem pSpine_ast : ∀ (cur : Expr) (ls : List Led), (pSpine cur ls).ast = ledsAst cur.ast ls
  | cur, [] => by simp only [pSpine, ledsAst]
  | cur, l :: ls => by
    simp only [pSpine]
    have hw := wrap_ast cur
    cases hc : wrap cur with
    | mk h acc =>
      simp only []
      rw [pSpine_ast _ ls]
      rw [hc] at hw
      simp only [Expr.ast] at hw ⊢
      rw [ledsAst_append, hw]
      simp [ledsAst, pLed_ast l]
theorem pInner_ast : ∀ e : Expr, (pInner e).ast = e.ast
  | .mk h ls => by
    simp only [pInner, Expr.ast, pNud_ast h, pLeds_ast ls]
theorem pLeds_ast : ∀ (ls : List Led) (left : Ast), ledsAst left (pLeds ls) = ledsAst left ls
  | [], left => by simp only [pLeds]
  | l :: ls, left => by simp only [pLeds, ledsAst, pLed_ast l, pLeds_ast ls]
theorem pNud_ast : ∀ n : Nud, (pNud n).ast = n.ast
  | .at | .field _ | .qfield _ | .lit _ | .idx _ => rfl
  | .call s args => by simp only [pNud, Nud.ast, pArgs_ast args]
  | .star r | .slice _ r | .wildIdx r | .flatten r => by simp only [pNud, Nud.ast, pRhs_ast r]
  | .mlist es => by simp only [pNud, Nud.ast, pElems_ast es]
  | .mhash kvs => by simp only [pNud, Nud.ast, pKvs_ast kvs]
  | .not e | .expref e => by simp only [pNud, Nud.ast, wrap_ast, pExpr_ast e]
  | .filter p r => by simp only [pNud, Nud.ast, wrap_ast, pExpr_ast p, pRhs_ast r]
  | .paren e => by simp only [pNud, Nud.ast, pExpr_ast e]
theorem pLed_ast : ∀ (l : Led) (left : Ast), (pLed l).ast left = l.ast left
  | .index _, _ => rfl
  | .dotStar r, _ | .sliceL _ r, _ | .wildIdxL r, _ | .flattenL r, _ => by simp only [pLed, Led.ast, pRhs_ast r]
  | .dot d, _ => by simp only [pLed, Led.ast, pDot_ast d]
  | .or e, _ | .and e, _ | .pipe e, _ | .cmp _ e, _ => by simp only [pLed, Led.ast, wrap_ast, pExpr_ast e]
  | .filterL p r, _ => by simp only [pLed, Led.ast, wrap_ast, pExpr_ast p, pRhs_ast r]
  | .callDev args, _ => by simp only [pLed, Led.ast, pArgs_ast args]
theorem pRhs_ast : ∀ r : Rhs, (pRhs r).ast = r.ast
  | .none => rfl
  | .dot d => by simp only [pRhs, Rhs.ast, pDot_ast d]
  | .bracket e => by simp only [pRhs, Rhs.ast, pInner_ast e]
theorem pDot_ast : ∀ d : DotRhs, (pDot d).ast = d.ast
  | .mlist es => by simp only [pDot, DotRhs.ast, pElems_ast es]
  | .expr e => by simp only [pDot, DotRhs.ast, pInner_ast e]
theorem pElems_ast : ∀ es : List Expr, exprsAst (pElems es) = exprsAst es
  | [] => rfl
  | e :: es => by simp only [pElems, exprsAst, wrap_ast, pExpr_ast e, pElems_ast es]
theorem pArgs_ast : ∀ es : List Expr, exprsAst (pArgs es) = exprsAst es
  | [] => rfl
  | e :: es => by
    simp only [pArgs, exprsAst, pArgs_ast es]
    split <;> simp [wrap_ast, pExpr_ast e, pInner_ast e]
theorem pKvs_ast : ∀ kvs : List (Bool × String × Expr), kvsAst (pKvs kvs) = kvsAst kvs
  | [] => rfl
  | (q, s, e) :: r => by simp only [pKvs, kvsAst, wrap_ast, pExpr_ast e, pKvs_ast r]
end

end JmesVerif
