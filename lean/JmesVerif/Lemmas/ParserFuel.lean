import JmesVerif.Lemmas.ParserSuffix
/-!
Fuel sufficiency of the parser: `expr_fuel_ok`, `parseTokens_no_fuel` — `8·|tokens| + 8` units of
fuel always suffice.
Proof: (1) every parser function returns a suffix, `nud`/`led` a strict one (`ParserSuffix`);
(2) `NoFuel`: function `f` never answers `.error .fuel` when `8·|ts| + rank f ≤ fuel`, where the
ranks make every call edge decrease (same tokens ⇒ strictly smaller rank; ≥ 1 token consumed ⇒ +8).
-/
namespace JmesVerif
open Parser Pos

/-- iterations `idxLoop` can still make in state `k` when the next token is `t` -/
def idxNeed (k : Nat) : Tok → Nat
  | .number _ => 2 * (2 - k) + 2
  | .colon => 2 * (2 - k) + 1
  | _ => 1

theorem idxNeed_bounds (k : Nat) (t : Tok) : 1 ≤ idxNeed k t ∧ idxNeed k t ≤ 2 * (2 - k) + 2 := by
  unfold idxNeed
  split <;> omega

theorem idxLoop_no_fuel : ∀ (fuel : Nat) ts off a b c k,
    idxNeed k (peekT ts) ≤ fuel → idxLoop fuel ts off a b c k ≠ .error .fuel := by
  intro fuel
  induction fuel with
  | zero => intro ts off a b c k h; have := idxNeed_bounds k (peekT ts); omega
  | succ n ih =>
    intro ts off a b c k h
    obtain _ | ⟨⟨p, t⟩, r⟩ := ts
    · nofun
    obtain ⟨v, rfl⟩ | rfl | rfl | ht := idxLoop_other t
    · replace h : 2 * (2 - k) + 2 ≤ n + 1 := h
      rw [idxLoop_number]
      split
      case h_3 => nofun
      all_goals
        rename_i hp
        exact ih _ _ _ _ _ _ (by rw [hp]; simp only [idxNeed]; omega)
    · replace h : 2 * (2 - k) + 1 ≤ n + 1 := h
      rw [idxLoop_colon]
      split
      · nofun
      split
      case h_4 => nofun
      all_goals
        rename_i hp
        exact ih _ _ _ _ _ _ (by rw [hp]; simp only [idxNeed]; omega)
    · rw [idxLoop_rbracket]
      repeat' split
      all_goals nofun
    · rw [ht]; nofun

/-- no-out-of-fuel facts at fuel `n` (the constant added to `8 * ts.length` is the rank).  `nud`
spends its unit on a token, and what it calls then has eight units more than its rank asks for:
so its bound is tighter than a rank, and with it the bound of `expr`. -/
structure NoFuel (n : Nat) : Prop where
  expr : ∀ rbp ts off, 8 * ts.length + 1 ≤ n → 2 ≤ n → Parser.expr n rbp ts off ≠ .error .fuel
  loop : ∀ rbp h acc left ts off, 8 * ts.length + 2 ≤ n → Parser.loop n rbp h acc left ts off ≠ .error .fuel
  nud : ∀ ts off, 8 * ts.length ≤ n + 3 → 1 ≤ n → Parser.nud n ts off ≠ .error .fuel
  led : ∀ left ts off, 8 * ts.length + 1 ≤ n → Parser.led n left ts off ≠ .error .fuel
  parseIndex : ∀ ts off, 8 * ts.length + 4 ≤ n → Parser.parseIndex n ts off ≠ .error .fuel
  projRhs : ∀ k ts off, 8 * ts.length + 3 ≤ n → Parser.projRhs n k ts off ≠ .error .fuel
  parseDot : ∀ k ts off, 8 * ts.length + 3 ≤ n → Parser.parseDot n k ts off ≠ .error .fuel
  multiList : ∀ ts off, 8 * ts.length + 4 ≤ n → Parser.multiList n ts off ≠ .error .fuel
  parseList : ∀ paren ts off es as, 8 * ts.length + 3 ≤ n → Parser.parseList n paren ts off es as ≠ .error .fuel
  kvps : ∀ ts off ks aks, 8 * ts.length + 3 ≤ n → Parser.kvps n ts off ks aks ≠ .error .fuel
  parseFilter : ∀ lhs ts off, 8 * ts.length + 3 ≤ n → Parser.parseFilter n lhs ts off ≠ .error .fuel
  parseFlatten : ∀ lhs ts off, 8 * ts.length + 4 ≤ n → Parser.parseFlatten n lhs ts off ≠ .error .fuel
  wildcardValues : ∀ lhs ts off, 8 * ts.length + 4 ≤ n → Parser.wildcardValues n lhs ts off ≠ .error .fuel
  wildcardIndex : ∀ lhs ts off, 8 * ts.length + 4 ≤ n → Parser.wildcardIndex n lhs ts off ≠ .error .fuel

/-! One step per function.  `split at h <;> cases h` on `(match sub-call with | .error e => .error e
| .ok _ => .ok _) = .error .fuel` leaves the `.error` branch, with `sub-call = .error .fuel` as the
last hypothesis.  Where a second call runs on what the first left, the length of that is bounded
by `length_le_of_sfx`, `nud_length`, `led_length`. -/

variable {n : Nat}

theorem NoFuel.succ (ih : NoFuel n) : NoFuel (n + 1) := by
  constructor
  · intro rbp ts off hf h2 h
    unfold Parser.expr at h
    split at h
    · cases h; refine ih.nud _ _ ?_ ?_ ‹_› <;> omega
    · have := nud_length ‹_›
      exact ih.loop _ _ _ _ _ _ (by omega) h
  · intro rbp h acc left ts off hf h
    unfold Parser.loop at h
    split at h
    · split at h
      · simp only [List.length_cons] at hf
        split at h
        · split at h
          · cases h; refine ih.parseList _ _ _ _ _ ?_ ‹_› <;> omega
          · have := length_le_of_sfx ((sfx_all n).list _ _ _ _ _ _ _ _ ‹_›)
            split at h <;> exact ih.loop _ _ _ _ _ _ (by omega) h
        · cases h
      · split at h
        · cases h; refine ih.led _ _ _ ?_ ‹_› <;> omega
        · have := led_length ‹_›
          exact ih.loop _ _ _ _ _ _ (by omega) h
    · cases h
  · intro ts off hf _ h
    unfold Parser.nud at h
    split at h
    · cases h
    · simp only [List.length_cons] at hf
      split at h
      · cases h
      · cases h
      · split at h <;> cases h
      · split at h <;> cases h; refine ih.wildcardValues _ _ _ ?_ ‹_› <;> omega
      · cases h
      · split at h
        iterate 2
          · split at h <;> cases h; refine ih.parseIndex _ _ ?_ ‹_› <;> omega
        · simp only [List.length_cons] at hf
          split at h <;> cases h
          refine ih.wildcardIndex _ _ _ ?_ ‹_›
          simp only [List.length_cons]; omega
        · split at h <;> cases h; refine ih.multiList _ _ ?_ ‹_› <;> omega
      · split at h <;> cases h; refine ih.parseFlatten _ _ _ ?_ ‹_› <;> omega
      · split at h <;> cases h; refine ih.kvps _ _ _ _ ?_ ‹_› <;> omega
      iterate 2
        · split at h <;> cases h; refine ih.expr _ _ _ ?_ ?_ ‹_› <;> omega
      · split at h <;> cases h; refine ih.parseFilter _ _ _ ?_ ‹_› <;> omega
      · split at h
        · cases h; refine ih.expr _ _ _ ?_ ?_ ‹_› <;> omega
        · split at h <;> cases h
      · cases h
  · intro left ts off hf h
    unfold Parser.led at h
    split at h
    · cases h
    · simp only [List.length_cons] at hf
      split at h
      · split at h
        · simp only [List.length_cons] at hf
          split at h <;> cases h; refine ih.wildcardValues _ _ _ ?_ ‹_› <;> omega
        · split at h <;> cases h; refine ih.parseDot _ _ _ ?_ ‹_› <;> omega
      · split at h
        iterate 2
          · split at h <;> cases h; refine ih.parseIndex _ _ ?_ ‹_› <;> omega
        · simp only [List.length_cons] at hf
          split at h <;> cases h; refine ih.wildcardIndex _ _ _ ?_ ‹_› <;> omega
        · cases h
      iterate 3
        · split at h <;> cases h; refine ih.expr _ _ _ ?_ ?_ ‹_› <;> omega
      · split at h <;> cases h; refine ih.parseFlatten _ _ _ ?_ ‹_› <;> omega
      · split at h <;> cases h; refine ih.parseFilter _ _ _ ?_ ‹_› <;> omega
      · split at h
        · split at h <;> cases h; refine ih.expr _ _ _ ?_ ?_ ‹_› <;> omega
        · cases h
  · intro ts off hf h
    unfold Parser.parseIndex at h
    split at h
    · cases h; exact idxLoop_no_fuel 8 _ _ _ _ _ 0 (Nat.le_trans (idxNeed_bounds 0 _).2 (by decide)) ‹_›
    · cases h
    · have := length_le_of_sfx (idxLoop_suffix _ _ _ _ _ _ _ _ _ _ ‹_›)
      simp only at h
      split at h <;> cases h; refine ih.projRhs _ _ _ ?_ ‹_› <;> omega
  · intro k ts off hf h
    unfold Parser.projRhs at h
    split at h
    · simp only [List.length_cons] at hf
      split at h <;> cases h; refine ih.parseDot _ _ _ ?_ ‹_› <;> omega
    iterate 2
      · split at h <;> cases h; refine ih.expr _ _ _ ?_ ?_ ‹_› <;> omega
    · split at h <;> cases h
  · intro k ts off hf h
    unfold Parser.parseDot at h
    split at h
    · simp only [List.length_cons] at hf
      split at h <;> cases h; refine ih.multiList _ _ ?_ ‹_› <;> omega
    iterate 5
      · split at h <;> cases h; refine ih.expr _ _ _ ?_ ?_ ‹_› <;> omega
    · cases h
  · intro ts off hf h
    unfold Parser.multiList at h
    split at h
    · cases h; refine ih.parseList _ _ _ _ _ ?_ ‹_› <;> omega
    · split at h <;> cases h
  · intro paren ts off es as hf h
    unfold Parser.parseList at h
    split at h
    · split at h
      · cases h
      · split at h
        · cases h; refine ih.expr _ _ _ ?_ ?_ ‹_› <;> omega
        · have := length_le_of_sfx ((sfx_all n).expr _ _ _ _ _ _ ‹_›)
          split at h
          · simp only [List.length_cons] at this hf
            split at h
            · cases h
            · exact ih.parseList _ _ _ _ _ (by omega) h
          · split at h <;> cases h
          · cases h
    · cases h
  · intro ts off ks aks hf h
    unfold Parser.kvps at h
    simp only at h
    split at h
    · split at h <;> cases h
    · rename_i q s p r hkey
      have hr : r.length < ts.length := by
        split at hkey <;> cases hkey <;> exact Nat.lt_succ_self _
      split at h
      · simp only [List.length_cons] at hr
        split at h
        · cases h; refine ih.expr _ _ _ ?_ ?_ ‹_› <;> omega
        · have := length_le_of_sfx ((sfx_all n).expr _ _ _ _ _ _ ‹_›)
          split at h
          · cases h
          · simp only [List.length_cons] at this
            exact ih.kvps _ _ _ _ (by omega) h
          · cases h
          · cases h
      · cases h
  · intro lhs ts off hf h
    unfold Parser.parseFilter at h
    split at h
    · cases h; refine ih.expr _ _ _ ?_ ?_ ‹_› <;> omega
    · have := length_le_of_sfx ((sfx_all n).expr _ _ _ _ _ _ ‹_›)
      split at h
      · simp only [List.length_cons] at this
        split at h <;> cases h; refine ih.projRhs _ _ _ ?_ ‹_› <;> omega
      · cases h
      · cases h
  · intro lhs ts off hf h
    unfold Parser.parseFlatten at h
    split at h <;> cases h; refine ih.projRhs _ _ _ ?_ ‹_› <;> omega
  · intro lhs ts off hf h
    unfold Parser.wildcardValues at h
    split at h <;> cases h; refine ih.projRhs _ _ _ ?_ ‹_› <;> omega
  · intro lhs ts off hf h
    unfold Parser.wildcardIndex at h
    split at h
    · simp only [List.length_cons] at hf
      split at h <;> cases h; refine ih.projRhs _ _ _ ?_ ‹_› <;> omega
    · cases h
    · cases h

theorem noFuel_all : ∀ n, NoFuel n
  | 0 => by constructor <;> intros <;> omega
  | n + 1 => (noFuel_all n).succ

/-- The bound `8·|ts| + 1` alone is not enough on the empty queue: `expr 1` calls `nud 0`. -/
theorem expr_fuel_one_nil (rbp off : Nat) : Parser.expr 1 rbp [] off = .error .fuel := by
  simp [Parser.expr]

/-- `expr` never runs out of fuel with `8·|ts| + 1` units, provided there are at least 2
(the second hypothesis only matters for `ts = []`, see `expr_fuel_one_nil`). -/
theorem expr_fuel_ok (fuel rbp : Nat) (ts : List PT) (off : Nat) (hf : 8 * ts.length + 1 ≤ fuel)
    (h2 : 2 ≤ fuel) : Parser.expr fuel rbp ts off ≠ .error .fuel :=
  (noFuel_all fuel).expr rbp ts off hf h2

theorem expr_fuel_ok' (fuel rbp : Nat) (ts : List PT) (off : Nat) (hf : 8 * ts.length + 2 ≤ fuel) :
    Parser.expr fuel rbp ts off ≠ .error .fuel :=
  expr_fuel_ok fuel rbp ts off (by omega) (by omega)

theorem parseTokens_no_fuel (ts : List PT) : parseTokens ts ≠ .error .fuel := by
  have h := expr_fuel_ok (8 * ts.length + 8) 0 ts 0 (by omega) (by omega)
  unfold parseTokens
  split
  · rename_i e he; intro h'; injection h' with h'; subst h'; exact h he
  · split <;> simp

end JmesVerif
