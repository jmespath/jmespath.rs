import JmesVerif.Lemmas.SemFullBase
import JmesVerif.Lemmas.SemFullSafe
import JmesVerif.Lemmas.Signature
import JmesVerif.Lemmas.InterpSafe
/-
The call rule: `interpAll` over the arguments, `Registry.get`, `callFn` (signature check, then
`Builtin.pure` or `mapExpref` / `keysTyped` / `byExtreme` on the expression reference) against
`SemFull.call` / `SemFull.apply` on evaluated arguments and closures.
-/
namespace JmesVerif
open Spec

theorem names_eq_all : SemFull.names = Builtin.all := rfl

theorem get_map_lookup (l : List (String × Builtin)) (name : String) :
    Registry.get (l.map fun (n, b) => (n, Fn.builtin b)) name = (l.lookup name).map Fn.builtin := by
  induction l with
  | nil => simp [Registry.get, List.lookup]
  | cons p l ih =>
    obtain ⟨n, b⟩ := p
    simp only [List.map, Registry.get, List.lookup]
    by_cases h : n = name
    · subst h; simp
    · have : (name == n) = false := by simpa using fun h' => h h'.symm
      simp [h, this, ih]

/-- the default registry binds exactly the 26 names of the specification -/
theorem default_get (name : String) :
    Registry.default.get name = (SemFull.builtinOf name).map Fn.builtin := by
  unfold Registry.default SemFull.builtinOf
  rw [names_eq_all]
  exact get_map_lookup _ _

theorem names_slot : ∀ p ∈ SemFull.names, ∀ i, SemFull.exprefParam p.1 i = p.2.slot i := by
  have h : ∀ p ∈ SemFull.names, SemFull.exprefParam p.1 0 = p.2.slot 0 ∧
      SemFull.exprefParam p.1 1 = p.2.slot 1 := by decide
  intro ⟨n, b⟩ hp i
  rcases i with _ | _ | i
  · exact (h _ hp).1
  · exact (h _ hp).2
  · have : b.slot (i + 2) = false := by cases b <;> rfl
    simp [SemFull.exprefParam, this]

/-- the expref-typed parameter positions of the specification are those of the builtin -/
theorem exprefParam_slot (name : String) (b : Builtin) (h : SemFull.builtinOf name = some b) (i : Nat) :
    SemFull.exprefParam name i = b.slot i :=
  names_slot _ (lookup_mem_names _ _ _ h) i

section fn
variable (rt : Registry)

/-- one concrete tree converges to what the semantics says.  Definitionally `CIx rt Genuine`
(`Lemmas/SemConformBase.lean`); the proofs below rely on it when they apply the rules of that file
at `E := Genuine`. -/
def CI1 (d : Val) (a : Ast) (off : Nat) (s : Option Val) : Prop :=
  ∃ n, ∀ fuel, n ≤ fuel → AgreesF (interp rt fuel d a off) s off

theorem cm_each {body : Ast} {o : Nat} {f : Val → Option Val} :
    ∀ xs : List Val, (∀ x ∈ xs, CI1 rt x body o (f x)) →
      ∃ n, ∀ fuel, n ≤ fuel → AgreesF (mapExpref rt fuel xs body o) (Sem.optMapM f xs) o
  | [], _ => conv_succ (E := Genuine) (.ok fun _ _ => by simp only [mapExpref])
  | x :: rest, h =>
    conv_succ (E := Genuine) <| (ConvIf.bind (h x (by simp)) (fun n e _ he => by simp only [mapExpref, he])
      fun v _ => .map (f := (v :: ·)) (cm_each rest fun y hy => h y (by simp [hy]))
        (fun n e hp he => by simp only [mapExpref, hp.2, he])
        fun ys n hp he => by simp only [mapExpref, hp.2, he]).congr <| by
      simp only [Sem.optMapM]
      cases f x <;> rfl

/-- keys of one type -/
def typedKeys (ty : JType) (s : Option (List Val)) : Option (List Val) :=
  s.bind fun ks => if ks.all (fun k => k.type == ty) then some ks else none

theorem typedKeys_cons (ty : JType) (f : Val → Option Val) (x : Val) (rest : List Val) :
    typedKeys ty (Sem.optMapM f (x :: rest)) =
      (f x).bind fun v =>
        if v.type = ty then (typedKeys ty (Sem.optMapM f rest)).map (v :: ·) else none := by
  simp only [Sem.optMapM, typedKeys]
  cases f x with
  | none => rfl
  | some v =>
    by_cases hty : v.type = ty
    · cases Sem.optMapM f rest with
      | none => simp
      | some ks => cases ks.all (fun k => k.type == ty) <;> simp [hty]
    · cases Sem.optMapM f rest <;> simp [hty]

theorem ck_typed {body : Ast} {o : Nat} {f : Val → Option Val} {ty : JType} :
    ∀ (xs : List Val) (inv : Nat), (∀ x ∈ xs, CI1 rt x body o (f x)) →
      ∃ n, ∀ fuel, n ≤ fuel →
        AgreesF (keysTyped rt fuel xs body ty inv o) (typedKeys ty (Sem.optMapM f xs)) o
  | [], inv, _ => conv_succ (E := Genuine) (.ok fun _ _ => by simp only [keysTyped])
  | x :: rest, inv, h =>
    conv_succ (E := Genuine) <| (ConvIf.bind (h x (by simp)) (fun n e _ he => by simp only [keysTyped, he])
      fun v _ => by
        by_cases hty : v.type = ty
        · rw [if_pos hty]
          exact .map (f := (v :: ·)) (ck_typed rest (inv + 1) fun y hy => h y (by simp [hy]))
            (fun n e hp he => by simp [keysTyped, hp.2, hty, he])
            fun ys n hp he => by simp [keysTyped, hp.2, hty, he]
        · rw [if_neg hty]
          exact .err (e := .runtime (.invalidReturnType ("expression->" ++ ty.name) v.type.name 1 inv) o) rfl fun n hp => by
            simp only [keysTyped, hp.2, ne_eq, hty, not_false_eq_true, if_true]).congr
      (typedKeys_cons ty f x rest).symm

/-- the common part of `sort_by` and `min_and_max_by!`: key of the first element, its type check,
the keys of the others (`keysTyped`), then `cont` on all keys -/
def keyedRun (k : Nat) (x : Val) (rest : List Val) (body : Ast) (o : Nat) (msg : String)
    (cont : List Val → Val) : ERes Val :=
  match interp rt k x body o with
  | .error e => .error e
  | .ok (k0, off) =>
    if k0.type ≠ .string ∧ k0.type ≠ .number then
      .error (.runtime (.invalidReturnType msg k0.type.name 1 1) off)
    else
      match keysTyped rt k rest body k0.type 1 off with
      | .error e => .error e
      | .ok (ks, off) => .ok (cont (k0 :: ks), off)

theorem jt_beq (a b : JType) : (a == b) = decide (a = b) := by
  cases a <;> cases b <;> decide

theorem keysOk_cons (k0 : Val) (ks : List Val) :
    SemFull.keysOk (k0 :: ks) =
      ((k0.type == .number || k0.type == .string) && ks.all (fun k => k.type == k0.type)) := by
  unfold SemFull.keysOk
  cases h : k0.type <;> simp [h, jt_beq]

theorem keyed_spec (f : Val → Option Val) (x : Val) (rest : List Val) (cont : List Val → Val) :
    ((Sem.optMapM f (x :: rest)).bind fun ks => if SemFull.keysOk ks then some (cont ks) else none) =
      (f x).bind fun k0 =>
        if k0.type ≠ .string ∧ k0.type ≠ .number then none
        else (typedKeys k0.type (Sem.optMapM f rest)).map fun ks => cont (k0 :: ks) := by
  simp only [Sem.optMapM, typedKeys]
  cases f x with
  | none => rfl
  | some k0 =>
    cases Sem.optMapM f rest with
    | none => simp
    | some ks =>
      simp only [Option.map_some, Option.bind_some, keysOk_cons]
      cases hall : ks.all (fun k => k.type == k0.type) <;> cases h : k0.type <;> simp [jt_beq]

theorem keyedRun_conv {x : Val} {rest : List Val} {body : Ast} {o : Nat} {f : Val → Option Val}
    (msg : String) (cont : List Val → Val) (h : ∀ y ∈ x :: rest, CI1 rt y body o (f y)) :
    ∃ n, ∀ k, n ≤ k → AgreesF (keyedRun rt k x rest body o msg cont)
      ((Sem.optMapM f (x :: rest)).bind fun ks => if SemFull.keysOk ks then some (cont ks) else none) o :=
  ConvIf.run (E := Genuine) <| (ConvIf.bind (h x (by simp)) (fun n e _ he => by simp only [keyedRun, he])
    fun k0 _ => by
      by_cases hty : k0.type ≠ .string ∧ k0.type ≠ .number
      · rw [if_pos hty]
        exact .err (e := .runtime (.invalidReturnType msg k0.type.name 1 1) o) rfl fun n hp => by
          simp only [keyedRun, hp.2, if_pos hty]
      · rw [if_neg hty]
        exact .map (ck_typed rt rest 1 fun y hy => h y (by simp [hy]))
          (fun n e hp he => by simp only [keyedRun, hp.2, if_neg hty, he])
          fun ks n hp he => by simp only [keyedRun, hp.2, if_neg hty, he]).congr
    (keyed_spec f x rest cont).symm


theorem validate_map_ok (a : Ast) (xs : List Val) (o : Nat) :
    Builtin.map.sig.validate [.expref a, .arr xs] o = .ok () :=
  (validate_two _ _ _ _).2 ⟨_, _, rfl, by simp [ArgT.isValid, Val.type], by simp [ArgT.isValid, Val.type]⟩
theorem validate_by_ok (b : Builtin) (hb : b = .sortBy ∨ b = .maxBy ∨ b = .minBy) (a : Ast) (xs : List Val)
    (o : Nat) : b.sig.validate [.arr xs, .expref a] o = .ok () := by
  rcases hb with rfl | rfl | rfl <;> exact validate_arr_expref xs a o

theorem callFn_sortBy_nil (k : Nat) (a : Ast) (o : Nat) :
    callFn rt (k + 1) (.builtin .sortBy) [.arr [], .expref a] o = .ok (.arr [], o) := by
  rw [callFn.eq_def]
  simp only [validate_by_ok .sortBy (.inl rfl)]

theorem callFn_sortBy_cons (k : Nat) (a : Ast) (x : Val) (rest : List Val) (o : Nat) :
    callFn rt (k + 1) (.builtin .sortBy) [.arr (x :: rest), .expref a] o =
      keyedRun rt k x rest a o "expression->string|expression->number"
        (fun ks => .arr ((sortPairs ((x :: rest).zip ks)).map (·.1))) := by
  rw [callFn.eq_def]
  simp only [validate_by_ok .sortBy (.inl rfl), keyedRun]
  rfl

theorem byExtreme_nil (k : Nat) (isMax : Bool) (a : Ast) (o : Nat) :
    byExtreme rt (k + 1) isMax [] a o = .ok (.null, o) := by
  rw [byExtreme.eq_def]

theorem byExtreme_cons (k : Nat) (isMax : Bool) (a : Ast) (x : Val) (rest : List Val) (o : Nat) :
    byExtreme rt (k + 1) isMax (x :: rest) a o =
      keyedRun rt k x rest a o "expression->number|expression->string"
        (fun ks => SemFull.pickExtreme isMax ((x :: rest).zip ks)) := by
  rw [byExtreme.eq_def]
  simp only [keyedRun]
  cases interp rt k x a o with
  | error e => rfl
  | ok p =>
    obtain ⟨k0, off⟩ := p
    simp only
    split
    · rfl
    · cases keysTyped rt k rest a k0.type 1 off with
      | error e => rfl
      | ok q =>
        obtain ⟨ks, off'⟩ := q
        simp only [List.zip_cons_cons, SemFull.pickExtreme]
        cases isMax <;> simp


/-- the model's argument values `vs` (positions `i, i+1, …`) against the semantics' arguments: a
value is the same JSON value; a function is an expression reference, in a position `ok` allows,
whose body converges to the function on every element of `D`, at every offset -/
def ArgsRel (ok : Nat → Bool) (D : List Val) : Nat → List Val → List SemFull.Arg → Prop
  | _, [], [] => True
  | i, v :: vs, .val w :: as => (v = w ∧ w.isJson = true) ∧ ArgsRel ok D (i + 1) vs as
  | i, v :: vs, .fn f :: as =>
    (ok i = true ∧ ∃ body, v = .expref body ∧ ∀ x ∈ D, ∀ o, CI1 rt x body o (f x)) ∧
      ArgsRel ok D (i + 1) vs as
  | _, _, _ => False

theorem rel_allVals {ok : Nat → Bool} {D : List Val} (hok : ∀ j, ok j = false) :
    ∀ (as : List SemFull.Arg) (i : Nat) (vs : List Val), ArgsRel rt ok D i vs as →
      SemFull.allVals as = some vs
  | [], i, vs, h => by cases vs <;> simp [ArgsRel] at h; rfl
  | .val w :: as, i, vs, h => by
    cases vs with
    | nil => simp [ArgsRel] at h
    | cons v vs =>
      simp only [ArgsRel] at h
      obtain ⟨⟨rfl, _⟩, h2⟩ := h
      simp [SemFull.allVals, rel_allVals hok as (i + 1) vs h2]
  | .fn f :: as, i, vs, h => by
    cases vs with
    | nil => simp [ArgsRel] at h
    | cons v vs => simp [ArgsRel, hok] at h

theorem validate_off (s : Sig) (args : List Val) (o o' : Nat) :
    s.validate args o = .ok () ↔ s.validate args o' = .ok () := by
  rw [validate_ok_iff, validate_ok_iff]

theorem validate_error_genuine (s : Sig) (args : List Val) (o : Nat) (e : EvalErr)
    (h : s.validate args o = .error e) : e.genuine = true := by
  obtain ⟨r, rfl⟩ := validate_error_offset s args o e h
  rfl

theorem callFn_validate_error (k : Nat) (b : Builtin) (vs : List Val) (o : Nat) (e : EvalErr)
    (h : b.sig.validate vs o = .error e) : callFn rt (k + 1) (.builtin b) vs o = .error e := by
  rw [callFn.eq_def]
  simp only [h]

theorem fn_conv_pure (b : Builtin) (hu : b.usesExpref = false) (vs : List Val) (o : Nat) :
    ∃ n, ∀ fuel, n ≤ fuel → AgreesF (callFn rt fuel (.builtin b) vs o) (SemFull.pureFn b vs) o := by
  refine ⟨1, fun fuel hf => ?_⟩
  obtain ⟨k, rfl, _⟩ := fuel_succ hf
  rw [callFn_pure rt k b vs o hu]
  unfold SemFull.pureFn
  cases hv : b.sig.validate vs o with
  | error e =>
    have hg := validate_error_genuine _ _ _ _ hv
    cases h0 : b.sig.validate vs 0 with
    | error e0 => exact ⟨e, rfl, hg⟩
    | ok u =>
      cases u
      have := (validate_off b.sig vs 0 o).mp h0
      rw [hv] at this; cases this
  | ok u =>
    cases u
    have h0 := (validate_off b.sig vs o 0).mp hv
    simp only [h0]
    cases hp : b.pure vs with
    | error e =>
      obtain ⟨⟨msg, rfl⟩, _⟩ := pure_error_is_internal b vs o hv hu e hp
      exact ⟨_, rfl, rfl⟩
    | ok v => rfl

theorem rel_map_shape {ok : Nat → Bool} {D : List Val} {vs : List Val} {f : Val → Option Val}
    {xs : List Val} (h : ArgsRel rt ok D 0 vs [.fn f, .val (.arr xs)]) :
    ∃ body, vs = [.expref body, .arr xs] ∧ ∀ x ∈ D, ∀ o, CI1 rt x body o (f x) := by
  rcases vs with _ | ⟨v0, _ | ⟨v1, _ | ⟨v2, vs⟩⟩⟩
  · simp [ArgsRel] at h
  · simp [ArgsRel] at h
  · simp only [ArgsRel] at h
    obtain ⟨⟨_, body, hv0, hb⟩, ⟨hv1, _⟩, _⟩ := h
    subst hv0 hv1
    exact ⟨body, rfl, hb⟩
  · simp [ArgsRel] at h
theorem rel_by_shape {ok : Nat → Bool} {D : List Val} {vs : List Val} {f : Val → Option Val}
    {xs : List Val} (h : ArgsRel rt ok D 0 vs [.val (.arr xs), .fn f]) :
    ∃ body, vs = [.arr xs, .expref body] ∧ ∀ x ∈ D, ∀ o, CI1 rt x body o (f x) := by
  rcases vs with _ | ⟨v0, _ | ⟨v1, _ | ⟨v2, vs⟩⟩⟩
  · simp [ArgsRel] at h
  · simp [ArgsRel] at h
  · simp only [ArgsRel] at h
    obtain ⟨⟨hv0, _⟩, ⟨_, body, hv1, hb⟩, _⟩ := h
    subst hv0 hv1
    exact ⟨body, rfl, hb⟩
  · simp [ArgsRel] at h

theorem rel_map_shape_inv {ok : Nat → Bool} {D : List Val} {as : List SemFull.Arg} {a : Ast}
    {xs : List Val} (h : ArgsRel rt ok D 0 [.expref a, .arr xs] as) :
    ∃ f, as = [.fn f, .val (.arr xs)] := by
  rcases as with _ | ⟨A0, _ | ⟨A1, _ | ⟨A2, as⟩⟩⟩
  · simp [ArgsRel] at h
  · cases A0 <;> simp [ArgsRel] at h
  · cases A0 with
    | val w =>
      simp only [ArgsRel] at h
      obtain ⟨⟨rfl, hj⟩, _⟩ := h
      simp at hj
    | fn f =>
      cases A1 with
      | val w =>
        simp only [ArgsRel] at h
        obtain ⟨_, ⟨rfl, _⟩, _⟩ := h
        exact ⟨f, rfl⟩
      | fn g =>
        simp only [ArgsRel] at h
        obtain ⟨_, ⟨_, body, hb, _⟩, _⟩ := h
        cases hb
  · cases A0 <;> cases A1 <;> simp [ArgsRel] at h
theorem rel_by_shape_inv {ok : Nat → Bool} {D : List Val} {as : List SemFull.Arg} {a : Ast}
    {xs : List Val} (h : ArgsRel rt ok D 0 [.arr xs, .expref a] as) :
    ∃ f, as = [.val (.arr xs), .fn f] := by
  rcases as with _ | ⟨A0, _ | ⟨A1, _ | ⟨A2, as⟩⟩⟩
  · simp [ArgsRel] at h
  · cases A0 <;> simp [ArgsRel] at h
  · cases A0 with
    | fn f =>
      simp only [ArgsRel] at h
      obtain ⟨⟨_, body, hb, _⟩, _⟩ := h
      cases hb
    | val w =>
      cases A1 with
      | val w' =>
        simp only [ArgsRel] at h
        obtain ⟨_, ⟨rfl, hj⟩, _⟩ := h
        simp at hj
      | fn g =>
        simp only [ArgsRel] at h
        obtain ⟨⟨rfl, _⟩, _⟩ := h
        exact ⟨g, rfl⟩
  · cases A0 <;> cases A1 <;> simp [ArgsRel] at h

theorem callFn_invalid (b : Builtin) (vs : List Val) (o : Nat) (h : b.sig.validate vs o ≠ .ok ()) :
    ∃ n, ∀ fuel, n ≤ fuel → AgreesF (callFn rt fuel (.builtin b) vs o) none o := by
  cases hv : b.sig.validate vs o with
  | ok u => exact absurd hv h
  | error e =>
    exact conv_succ (E := Genuine) (off := o) <| .err (validate_error_genuine _ _ _ _ hv) fun n _ =>
      callFn_validate_error rt n _ _ _ _ hv

theorem fn_conv_map {ok : Nat → Bool} (vs : List Val) (as : List SemFull.Arg)
    (hrel : ArgsRel rt ok (fnDomain (some as)) 0 vs as) (o : Nat) :
    ∃ n, ∀ fuel, n ≤ fuel → AgreesF (callFn rt fuel (.builtin .map) vs o) (SemFull.apply .map as) o := by
  cases hs : SemFull.mapShape as with
  | some p =>
    obtain ⟨f, xs⟩ := p
    obtain rfl : as = [.fn f, .val (.arr xs)] := mapShape_eq hs
    obtain ⟨body, rfl, hb⟩ := rel_map_shape rt hrel
    show ∃ n, ∀ fuel, n ≤ fuel → AgreesE Genuine (callFn rt fuel _ _ o) ((Sem.optMapM f xs).map .arr) o
    exact conv_succ <| .map (cm_each rt xs fun x hx => hb x hx o)
      (fun n e _ he => by rw [callFn_map, he]) fun ys n _ he => by rw [callFn_map, he]
  | none =>
    simp only [SemFull.apply, hs, Option.bind_none]
    refine callFn_invalid rt _ vs o fun hv => ?_
    rcases expref_args_shape .map vs o hv rfl with ⟨_, a, xs, rfl⟩ | ⟨h, _⟩
    · obtain ⟨f, rfl⟩ := rel_map_shape_inv rt hrel
      simp [SemFull.mapShape] at hs
    · simp at h

/-- what `sort_by` / `max_by` / `min_by` return for the elements `xs` with keys `ks` -/
def byResult (b : Builtin) (xs ks : List Val) : Val :=
  match b with
  | .sortBy => .arr ((sortPairs (xs.zip ks)).map (·.1))
  | .maxBy => SemFull.pickExtreme true (xs.zip ks)
  | _ => SemFull.pickExtreme false (xs.zip ks)

/-- the semantics of `sort_by` / `max_by` / `min_by` on a function and an array -/
def bySpec (b : Builtin) (f : Val → Option Val) (xs : List Val) : Option Val :=
  (Sem.optMapM f xs).bind fun ks => if SemFull.keysOk ks then some (byResult b xs ks) else none

theorem apply_by (b : Builtin) (hb : b = .sortBy ∨ b = .maxBy ∨ b = .minBy) (as : List SemFull.Arg) :
    SemFull.apply b as = (SemFull.byShape as).bind fun p => bySpec b p.1 p.2 := by
  cases hs : SemFull.byShape as with
  | none => rcases hb with rfl | rfl | rfl <;> simp only [SemFull.apply, hs] <;> rfl
  | some p =>
    rcases hb with rfl | rfl | rfl <;>
      simp only [SemFull.apply, hs, Option.bind_some, SemFull.sortBy, SemFull.extremeBy, bySpec] <;>
      cases Sem.optMapM p.1 p.2 <;> rfl

theorem by_run (b : Builtin) (hb : b = .sortBy ∨ b = .maxBy ∨ b = .minBy) (body : Ast)
    (f : Val → Option Val) (xs : List Val) (o : Nat) (h : ∀ x ∈ xs, CI1 rt x body o (f x)) :
    ∃ n, ∀ fuel, n ≤ fuel →
      AgreesF (callFn rt fuel (.builtin b) [.arr xs, .expref body] o) (bySpec b f xs) o := by
  cases xs with
  | nil =>
    rcases hb with rfl | rfl | rfl
    · exact conv_succ (E := Genuine) (.ok fun n _ => (callFn_sortBy_nil rt n body o).trans (by
        simp [byResult, sortPairs]))
    · exact conv_succ (E := Genuine) <| .of_conv
        (conv_succ (.ok fun n _ => byExtreme_nil rt n true body o)) fun n _ => callFn_maxBy rt n body [] o
    · exact conv_succ (E := Genuine) <| .of_conv
        (conv_succ (.ok fun n _ => byExtreme_nil rt n false body o)) fun n _ => callFn_minBy rt n body [] o
  | cons x rest =>
    rcases hb with rfl | rfl | rfl
    · exact conv_succ (E := Genuine) <| .of_conv (keyedRun_conv rt _ _ h) fun n _ =>
        callFn_sortBy_cons rt n body x rest o
    · exact conv_succ (E := Genuine) <| .of_conv
        (conv_succ <| .of_conv (keyedRun_conv rt _ _ h) fun n _ => byExtreme_cons rt n true body x rest o)
        fun n _ => callFn_maxBy rt n body (x :: rest) o
    · exact conv_succ (E := Genuine) <| .of_conv
        (conv_succ <| .of_conv (keyedRun_conv rt _ _ h) fun n _ => byExtreme_cons rt n false body x rest o)
        fun n _ => callFn_minBy rt n body (x :: rest) o

theorem fn_conv_by {ok : Nat → Bool} (b : Builtin) (hb : b = .sortBy ∨ b = .maxBy ∨ b = .minBy)
    (vs : List Val) (as : List SemFull.Arg)
    (hrel : ArgsRel rt ok (fnDomain (some as)) 0 vs as) (o : Nat) :
    ∃ n, ∀ fuel, n ≤ fuel → AgreesF (callFn rt fuel (.builtin b) vs o) (SemFull.apply b as) o := by
  rw [apply_by b hb]
  cases hs : SemFull.byShape as with
  | some p =>
    obtain ⟨f, xs⟩ := p
    obtain rfl : as = [.val (.arr xs), .fn f] := byShape_eq hs
    obtain ⟨body, rfl, hbody⟩ := rel_by_shape rt hrel
    exact by_run rt b hb body f xs o fun x hx => hbody x hx o
  | none =>
    refine callFn_invalid rt _ vs o fun hv => ?_
    have hu : b.usesExpref = true := by rcases hb with rfl | rfl | rfl <;> rfl
    rcases expref_args_shape b vs o hv hu with ⟨h, _⟩ | ⟨_, a, xs, rfl⟩
    · rcases hb with rfl | rfl | rfl <;> simp at h
    · obtain ⟨f, rfl⟩ := rel_by_shape_inv rt hrel
      simp [SemFull.byShape] at hs

theorem apply_pure (b : Builtin) (hu : b.usesExpref = false) (as : List SemFull.Arg) :
    SemFull.apply b as = (SemFull.allVals as).bind (SemFull.pureFn b) := by
  cases b <;> first | rfl | simp [Builtin.usesExpref] at hu

/-- **the function rule at value level**: `callFn` on the model's argument values agrees with
`SemFull.apply` on the semantics' arguments -/
theorem fn_conv (name : String) (b : Builtin) (hb : SemFull.builtinOf name = some b) (vs : List Val)
    (as : List SemFull.Arg)
    (hrel : ArgsRel rt (SemFull.exprefParam name) (fnDomain (some as)) 0 vs as) (o : Nat) :
    ∃ n, ∀ fuel, n ≤ fuel → AgreesF (callFn rt fuel (.builtin b) vs o) (SemFull.apply b as) o := by
  by_cases hu : b.usesExpref = true
  · have h4 : b = .map ∨ b = .sortBy ∨ b = .maxBy ∨ b = .minBy := by
      cases b <;> simp [Builtin.usesExpref] at hu <;> simp
    rcases h4 with rfl | h3
    · exact fn_conv_map rt vs as hrel o
    · exact fn_conv_by rt b h3 vs as hrel o
  · have hu' : b.usesExpref = false := by simpa using hu
    have hok : ∀ j, SemFull.exprefParam name j = false := fun j => by
      rw [exprefParam_slot name b hb j]; exact slot_of_not_usesExpref b hu' j
    rw [apply_pure b hu', rel_allVals rt hok as 0 vs hrel]
    exact fn_conv_pure rt b hu' vs o


/-- every argument list with the given stripped form evaluates (given enough fuel) to values
related to the semantics' arguments `s`, or — for `none` — to a genuine error -/
def CArgsF (ok : Nat → Bool) (D : List Val) (i : Nat) (d : Val) (es0 : List Ast) (off : Nat)
    (s : Option (List SemFull.Arg)) : Prop :=
  ∀ es, stripList es = stripList es0 →
    match s with
    | none => ∃ n, ∀ fuel, n ≤ fuel → ∃ e, interpAll rt fuel d es off = .error e ∧ e.genuine = true
    | some as => ∃ vs, ArgsRel rt ok D i vs as ∧
        ∃ n, ∀ fuel, n ≤ fuel → interpAll rt fuel d es off = .ok (vs, off)

theorem cargs_nil (ok : Nat → Bool) (D : List Val) (i : Nat) (d : Val) (off : Nat) :
    CArgsF rt ok D i d [] off (some []) := by
  intro es hes
  rw [stripList_inv_nil hes]
  exact ⟨[], trivial, ca_nil rt Genuine d off⟩

theorem cargs_cons_val {ok : Nat → Bool} {D : List Val} {i : Nat} {d : Val} {a : Ast} {rest : List Ast}
    {off : Nat} {s1 : Option Val} {s2 : Option (List SemFull.Arg)}
    (h1 : CIF rt d a off s1) (hj : ∀ v, s1 = some v → v.isJson = true)
    (h2 : ∀ v, s1 = some v → CArgsF rt ok D (i + 1) d rest off s2) :
    CArgsF rt ok D i d (a :: rest) off
      (match s1 with | none => none | some v => s2.map (.val v :: ·)) := by
  intro es hes
  obtain ⟨a', rest', rfl, ha', hrest'⟩ := stripList_inv_cons hes
  have h1 : CIx rt Genuine d a' off s1 := h1 a' ha'
  cases s1 with
  | none => exact ca_cons rt Genuine (s2 := none) h1 (fun _ h => nomatch h)
  | some v =>
    have h2 := h2 v rfl rest' hrest'
    cases s2 with
    | none => exact ca_cons rt Genuine (s2 := none) h1 (fun _ _ => h2)
    | some as =>
      obtain ⟨vs, hrel, h2⟩ := h2
      exact ⟨v :: vs, ⟨⟨rfl, hj v rfl⟩, hrel⟩, ca_cons rt Genuine (s2 := some vs) h1 (fun _ _ => h2)⟩

/-- an `&e` argument: not evaluated, passed as the closure -/
theorem cargs_cons_fn {ok : Nat → Bool} {D : List Val} {i : Nat} {d : Val} {o0 : Nat} {body : Ast}
    {rest : List Ast} {off : Nat} {f : Val → Option Val} {s2 : Option (List SemFull.Arg)}
    (hok : ok i = true) (hb : ∀ x ∈ D, ∀ o, CIF rt x body o (f x))
    (h2 : CArgsF rt ok D (i + 1) d rest off s2) :
    CArgsF rt ok D i d (.expref o0 body :: rest) off (s2.map (.fn f :: ·)) := by
  intro es hes
  obtain ⟨a', rest', rfl, ha', hrest'⟩ := stripList_inv_cons hes
  obtain ⟨o', body', rfl, hbody'⟩ := strip_inv_expref ha'
  have h1 := ci_expref rt Genuine d o' off body'
  have h2 := h2 rest' hrest'
  cases s2 with
  | none => exact ca_cons rt Genuine (s2 := none) h1 (fun _ _ => h2)
  | some as =>
    obtain ⟨vs, hrel, h2⟩ := h2
    exact ⟨.expref body' :: vs, ⟨⟨hok, body', rfl, fun x hx o => hb x hx o body' hbody'⟩, hrel⟩,
      ca_cons rt Genuine (s2 := some vs) h1 (fun _ _ => h2)⟩

theorem cif_function (hrt : ∀ n, rt.get n = (SemFull.builtinOf n).map Fn.builtin)
    {d : Val} {name : String} {args0 : List Ast} {o off : Nat} {s : Option (List SemFull.Arg)}
    (hargs : CArgsF rt (SemFull.exprefParam name) (fnDomain s) 0 d args0 off s) :
    CIF rt d (.function o name args0) off (SemFull.call name s) := by
  intro a ha
  obtain ⟨o', args', rfl, hargs'⟩ := strip_inv_function ha
  have h := hargs args' hargs'
  show CIx rt Genuine d (.function o' name args') off (SemFull.call name s)
  have herr : ∀ n e, True → interpAll rt n d args' off = .error e →
      interp rt (n + 1) d (.function o' name args') off = .error e :=
    fun n e _ he => by simp only [interp, he]
  cases s with
  | none =>
    have h : CAx rt Genuine d args' off none := h
    exact conv_succ (ConvIf.bind (t := fun _ => none) h herr fun _ hv => nomatch hv)
  | some as =>
    obtain ⟨vs, hrel, h1⟩ := h
    have h1 : CAx rt Genuine d args' off (some vs) := h1
    refine conv_succ (ConvIf.bind (s := some vs) (t := fun _ => SemFull.call name (some as)) h1 herr ?_)
    rintro _ ⟨⟩
    cases hb : SemFull.builtinOf name with
    | none =>
      have hget : rt.get name = none := by rw [hrt, hb]; rfl
      exact .congr (s := none) (.err (e := .runtime (.unknownFunction name) o') rfl fun n hp => by
        simp only [interp, hp.2, hget]) (by simp only [SemFull.call, hb])
    | some b =>
      have hget : rt.get name = some (.builtin b) := by rw [hrt, hb]; rfl
      exact .congr (.map (f := id) (fn_conv rt name b hb vs as hrel o')
        (fun n e hp he => by simp only [interp, hp.2, hget, he])
        fun v n hp he => by simp only [interp, hp.2, hget, he, id])
        (by simp only [SemFull.call, hb, Option.map_id_fun, id])

end fn

end JmesVerif
