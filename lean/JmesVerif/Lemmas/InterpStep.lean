import JmesVerif.Model.Interp
/-!
The interpreter model without its offset register.  `interp`, `projectEach`, `interpAll`, `interpKVs`,
`mapExpref` and `keysTyped` thread `ctx.offset` through every call, but only hand it back:
`interp rt n d a off = lift off (ev rt n d a)` (`Comp.Keep`, `Comp.keep_all`), where `ev` is the outcome
alone.  One level of each function is then a `>>=` of outcomes (`Comp.evStep` and the loops' steps),
which is the form the inductions over the fuel reason about.
-/
namespace JmesVerif

def outcome (r : ERes α) : Except EvalErr α := match r with | .ok (v, _) => .ok v | .error e => .error e

@[simp] theorem outcome_ok (v : α) (o : Nat) : outcome (.ok (v, o) : ERes α) = .ok v := rfl
@[simp] theorem outcome_error (e : EvalErr) : outcome (.error e : ERes α) = .error e := rfl

namespace Comp

/-- offset-free views of the evaluation functions: run from offset 0, keep the outcome -/
def ev (rt : Registry) (n : Nat) (d : Val) (a : Ast) : Except EvalErr Val := outcome (interp rt n d a 0)
def evEach (rt : Registry) (n : Nat) (xs : List Val) (a : Ast) : Except EvalErr (List Val) :=
  outcome (projectEach rt n xs a 0)
def evAll (rt : Registry) (n : Nat) (d : Val) (es : List Ast) : Except EvalErr (List Val) :=
  outcome (interpAll rt n d es 0)
def evKVs (rt : Registry) (n : Nat) (d : Val) (kvs : List (String × Ast)) (acc : List (String × Val)) :
    Except EvalErr (List (String × Val)) := outcome (interpKVs rt n d kvs acc 0)
def evMap (rt : Registry) (n : Nat) (xs : List Val) (a : Ast) : Except EvalErr (List Val) :=
  outcome (mapExpref rt n xs a 0)
/-- the errors of `keysTyped` itself record the offset it was entered with -/
def evKeys (rt : Registry) (n : Nat) (xs : List Val) (a : Ast) (ty : JType) (inv off : Nat) :
    Except EvalErr (List Val) := outcome (keysTyped rt n xs a ty inv off)

/-- an outcome, back at an offset -/
def lift (off : Nat) : Except EvalErr α → ERes α
  | .ok v => .ok (v, off)
  | .error e => .error e
@[simp] theorem lift_ok (off : Nat) (v : α) : lift off (.ok v) = .ok (v, off) := rfl
@[simp] theorem lift_error (off : Nat) (e : EvalErr) : (lift off (.error e) : ERes α) = .error e := rfl
@[simp] theorem outcome_lift (off : Nat) (r : Except EvalErr α) : outcome (lift off r) = r := by
  cases r <;> rfl

theorem lift_error_iff {off : Nat} {r : Except EvalErr α} {e : EvalErr} : lift off r = .error e ↔ r = .error e := by
  cases r <;> simp [lift]
theorem lift_ok_iff {off off' : Nat} {r : Except EvalErr α} {v : α} :
    lift off r = .ok (v, off') ↔ r = .ok v ∧ off' = off := by
  cases r <;> simp [lift, eq_comm]
theorem outcome_error_iff {r : ERes α} {e : EvalErr} : outcome r = .error e ↔ r = .error e := by
  rcases r with _ | ⟨_, _⟩ <;> simp [outcome]

/-- the offset only passes through: a run from `off` is the run from 0, handed `off` back -/
structure Keep (rt : Registry) (n : Nat) : Prop where
  interp : ∀ d a off, interp rt n d a off = lift off (ev rt n d a)
  projectEach : ∀ xs a off, projectEach rt n xs a off = lift off (evEach rt n xs a)
  interpAll : ∀ d es off, interpAll rt n d es off = lift off (evAll rt n d es)
  interpKVs : ∀ d kvs acc off, interpKVs rt n d kvs acc off = lift off (evKVs rt n d kvs acc)
  mapExpref : ∀ xs a off, mapExpref rt n xs a off = lift off (evMap rt n xs a)
  keysTyped : ∀ xs a ty inv off, keysTyped rt n xs a ty inv off = lift off (evKeys rt n xs a ty inv off)

/-- one level of `interp` without the offset register -/
def evStep (rt : Registry) (n : Nat) (d : Val) : Ast → Except EvalErr Val
  | .field _ name => .ok (d.getField name)
  | .subexpr _ l r => ev rt n d l >>= fun v => ev rt n v r
  | .identity _ => .ok d
  | .literal _ v => .ok v
  | .index _ i => .ok (match d with | .arr xs => (indexList xs i).getD .null | _ => .null)
  | .or _ l r => ev rt n d l >>= fun v => if v.truthy then .ok v else ev rt n d r
  | .and _ l r => ev rt n d l >>= fun v => if !v.truthy then .ok v else ev rt n d r
  | .not _ a => ev rt n d a >>= fun v => .ok (.bool (!v.truthy))
  | .condition _ p t => ev rt n d p >>= fun c => if c.truthy then ev rt n d t else .ok .null
  | .comparison _ c l r => ev rt n d l >>= fun lv => ev rt n d r >>= fun rv =>
    .ok (match Val.compare c lv rv with | some b => .bool b | none => .null)
  | .objectValues _ a => ev rt n d a >>= fun v =>
    .ok (match v with | .obj kvs => .arr (kvs.map fun (_, v) => v) | _ => .null)
  | .projection _ l r => ev rt n d l >>= fun v =>
    match v with
    | .arr xs => evEach rt n xs r >>= fun ys => .ok (.arr ys)
    | _ => .ok .null
  | .flatten _ a => ev rt n d a >>= fun v =>
    .ok (match v with
      | .arr xs => .arr (xs.flatMap fun x => match x with | .arr ys => ys | other => [other])
      | _ => .null)
  | .multiList _ es => if d.isNull then .ok .null else evAll rt n d es >>= fun vs => .ok (.arr vs)
  | .multiHash _ kvs => if d.isNull then .ok .null else evKVs rt n d kvs [] >>= fun m => .ok (.obj m)
  | .function o name args => evAll rt n d args >>= fun vs =>
    match rt.get name with
    | some f => outcome (callFn rt n f vs o)
    | none => .error (.runtime (.unknownFunction name) o)
  | .expref _ a => .ok (.expref a)
  | .slice o start stop step =>
    if step = 0 then .error (.runtime .invalidSlice o)
    else
      match d with
      | .arr xs =>
        (match sliceList xs start stop step with
         | .ok ys => .ok (.arr ys)
         | .error _ => .error (.panic "slice"))
      | _ => .ok .null

/-- `Q` holds of the value returned, `E` of the error raised: the form of the invariants that speak of
one run (where an error may point, that no expression reference becomes data) -/
def Post (E : EvalErr → Prop) (Q : α → Prop) : Except EvalErr α → Prop
  | .ok v => Q v
  | .error e => E e

theorem Post.bind {E : EvalErr → Prop} {Q : α → Prop} {R : β → Prop} {x : Except EvalErr α}
    {f : α → Except EvalErr β} (hx : Post E Q x) (hf : ∀ v, Q v → Post E R (f v)) : Post E R (x >>= f) := by
  cases x with
  | error e => exact hx
  | ok v => exact hf v hx

@[simp] theorem ok_bind (v : α) (f : α → Except EvalErr β) : (Except.ok v >>= f) = f v := rfl

theorem interp_succ {rt n} (h : Keep rt n) (d : Val) (a : Ast) (off : Nat) :
    interp rt (n+1) d a off = lift off (evStep rt n d a) := by
  cases a with
    simp only [interp, evStep, h.interp, h.interpAll, h.interpKVs, h.projectEach]
  | field | identity | literal | expref => rfl
  | index o i => cases d <;> simp only [interp] <;> rfl
  | slice o a b s =>
    rw [interp.eq_def]
    simp only []
    split
    · rfl
    · cases d with
      | arr xs => simp only []; cases sliceList xs a b s <;> rfl
      | _ => rfl
  | subexpr o l r => cases ev rt n d l <;> rfl
  | not o a => cases ev rt n d a <;> rfl
  | or o l r | and o l r | condition o l r =>
    cases ev rt n d l with
    | error e => rfl
    | ok v => simp only [lift_ok, ok_bind]; split <;> rfl
  | comparison o c l r =>
    cases ev rt n d l with
    | error e => rfl
    | ok v =>
      cases ev rt n d r with
      | error e => rfl
      | ok w => simp only [lift_ok, ok_bind]; cases Val.compare c v w <;> rfl
  | objectValues o a | flatten o a =>
    cases ev rt n d a with
    | error e => rfl
    | ok v => cases v <;> rfl
  | projection o l r =>
    cases ev rt n d l with
    | error e => rfl
    | ok v =>
      cases v with
      | arr xs => simp only [lift_ok, ok_bind]; cases evEach rt n xs r <;> rfl
      | _ => rfl
  | multiList o es => split <;> first | rfl | (cases evAll rt n d es <;> rfl)
  | multiHash o kvs => split <;> first | rfl | (cases evKVs rt n d kvs [] <;> rfl)
  | function o name args =>
    cases evAll rt n d args with
    | error e => rfl
    | ok vs =>
      cases rt.get name with
      | none => rfl
      | some f => simp only [lift_ok, ok_bind]; cases callFn rt n f vs o <;> rfl

/-- one level of each loop without the offset register -/
def evEachStep (rt : Registry) (n : Nat) : List Val → Ast → Except EvalErr (List Val)
  | [], _ => .ok []
  | x :: rest, a => ev rt n x a >>= fun v => evEach rt n rest a >>= fun vs =>
    .ok (if v.isNull then vs else v :: vs)
def evAllStep (rt : Registry) (n : Nat) (d : Val) : List Ast → Except EvalErr (List Val)
  | [] => .ok []
  | e :: rest => ev rt n d e >>= fun v => evAll rt n d rest >>= fun vs => .ok (v :: vs)
def evKVsStep (rt : Registry) (n : Nat) (d : Val) :
    List (String × Ast) → List (String × Val) → Except EvalErr (List (String × Val))
  | [], acc => .ok acc
  | (k, e) :: rest, acc => ev rt n d e >>= fun v => evKVs rt n d rest (insertKV k v acc)

def evMapStep (rt : Registry) (n : Nat) : List Val → Ast → Except EvalErr (List Val)
  | [], _ => .ok []
  | x :: rest, a => ev rt n x a >>= fun v => evMap rt n rest a >>= fun vs => .ok (v :: vs)
def evKeysStep (rt : Registry) (n : Nat) : List Val → Ast → JType → Nat → Nat → Except EvalErr (List Val)
  | [], _, _, _, _ => .ok []
  | x :: rest, a, ty, inv, off => ev rt n x a >>= fun v =>
    if v.type ≠ ty then
      .error (.runtime (.invalidReturnType ("expression->" ++ ty.name) v.type.name 1 inv) off)
    else evKeys rt n rest a ty (inv + 1) off >>= fun vs => .ok (v :: vs)

theorem projectEach_succ {rt n} (h : Keep rt n) (xs : List Val) (a : Ast) (off : Nat) :
    projectEach rt (n+1) xs a off = lift off (evEachStep rt n xs a) := by
  cases xs with
  | nil => simp only [projectEach]; rfl
  | cons x rest =>
    simp only [projectEach, evEachStep, h.interp, h.projectEach]
    cases ev rt n x a with
    | error e => rfl
    | ok v => simp only [lift_ok, ok_bind]; cases evEach rt n rest a <;> rfl

theorem interpAll_succ {rt n} (h : Keep rt n) (d : Val) (es : List Ast) (off : Nat) :
    interpAll rt (n+1) d es off = lift off (evAllStep rt n d es) := by
  cases es with
  | nil => simp only [interpAll]; rfl
  | cons x rest =>
    simp only [interpAll, evAllStep, h.interp, h.interpAll]
    cases ev rt n d x with
    | error e => rfl
    | ok v => simp only [lift_ok, ok_bind]; cases evAll rt n d rest <;> rfl

theorem interpKVs_succ {rt n} (h : Keep rt n) (d : Val) (kvs : List (String × Ast)) (acc : List (String × Val))
    (off : Nat) : interpKVs rt (n+1) d kvs acc off = lift off (evKVsStep rt n d kvs acc) := by
  rcases kvs with _ | ⟨⟨k, e⟩, rest⟩
  · simp only [interpKVs]; rfl
  · simp only [interpKVs, evKVsStep, h.interp, h.interpKVs]
    cases ev rt n d e <;> rfl

theorem mapExpref_succ {rt n} (h : Keep rt n) (xs : List Val) (a : Ast) (off : Nat) :
    mapExpref rt (n+1) xs a off = lift off (evMapStep rt n xs a) := by
  cases xs with
  | nil => simp only [mapExpref]; rfl
  | cons x rest =>
    simp only [mapExpref, evMapStep, h.interp, h.mapExpref]
    cases ev rt n x a with
    | error e => rfl
    | ok v => simp only [lift_ok, ok_bind]; cases evMap rt n rest a <;> rfl

theorem keysTyped_succ {rt n} (h : Keep rt n) (xs : List Val) (a : Ast) (ty : JType) (inv off : Nat) :
    keysTyped rt (n+1) xs a ty inv off = lift off (evKeysStep rt n xs a ty inv off) := by
  cases xs with
  | nil => simp only [keysTyped]; rfl
  | cons x rest =>
    simp only [keysTyped, evKeysStep, h.interp, h.keysTyped]
    cases ev rt n x a with
    | error e => rfl
    | ok v =>
      simp only [lift_ok, ok_bind]
      split
      · rfl
      · cases evKeys rt n rest a ty (inv + 1) off <;> rfl

theorem keep_all (rt : Registry) : ∀ n, Keep rt n
  | 0 => by
    constructor <;> intros <;>
      simp only [ev, evEach, evAll, evKVs, evMap, evKeys, interp, projectEach, interpAll, interpKVs,
        mapExpref, keysTyped] <;> rfl
  | n + 1 => by
    have h := keep_all rt n
    constructor <;> intros
    · simp only [ev, interp_succ h, outcome_lift]
    · simp only [evEach, projectEach_succ h, outcome_lift]
    · simp only [evAll, interpAll_succ h, outcome_lift]
    · simp only [evKVs, interpKVs_succ h, outcome_lift]
    · simp only [evMap, mapExpref_succ h, outcome_lift]
    · simp only [evKeys, keysTyped_succ h, outcome_lift]

theorem ev_succ (rt n d a) : ev rt (n+1) d a = evStep rt n d a := by
  rw [ev, interp_succ (keep_all rt n), outcome_lift]
theorem evEach_succ (rt n xs a) : evEach rt (n+1) xs a = evEachStep rt n xs a := by
  rw [evEach, projectEach_succ (keep_all rt n), outcome_lift]
theorem evAll_succ (rt n d es) : evAll rt (n+1) d es = evAllStep rt n d es := by
  rw [evAll, interpAll_succ (keep_all rt n), outcome_lift]
theorem evKVs_succ (rt n d kvs acc) : evKVs rt (n+1) d kvs acc = evKVsStep rt n d kvs acc := by
  rw [evKVs, interpKVs_succ (keep_all rt n), outcome_lift]
theorem evMap_succ (rt n xs a) : evMap rt (n+1) xs a = evMapStep rt n xs a := by
  rw [evMap, mapExpref_succ (keep_all rt n), outcome_lift]
theorem evKeys_succ (rt n xs a ty inv off) :
    evKeys rt (n+1) xs a ty inv off = evKeysStep rt n xs a ty inv off := by
  rw [evKeys, keysTyped_succ (keep_all rt n), outcome_lift]

end Comp
end JmesVerif
