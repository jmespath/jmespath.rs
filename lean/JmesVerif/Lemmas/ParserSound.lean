import JmesVerif.Lemmas.ParserBasic
import JmesVerif.Lemmas.ParserSoundAux
/-!
T1 — soundness of the parser model with respect to the token-level grammar (`Spec/Grammar.lean`):
whatever a parser function returns spells exactly the tokens consumed, is `Legal`, stopped for a
reason, and the `Ast` built alongside is (up to offsets) the tree `ast` assigns.

One invariant per function of the mutual block, bundled in `IH fuel`; `IH.succ` proves the invariants
at `n+1` from those at `n`, function by function; `all` is the induction on the fuel.
-/
namespace JmesVerif
open Parser

def ExprInv (n : Nat) : Prop :=
  ∀ rbp ts off e a ts' off', Parser.expr n rbp ts off = .ok ((e, a), ts', off') →
    tk ts = e.toks ++ tk ts' ∧ e.Legal rbp ∧ Stop rbp ts' ∧ Stop e.follow ts' ∧ a.strip = e.ast

/-- `nud` rejects a quoted identifier directly followed by `(` -/
def QfOk (h : Nud) (acc : List Led) (ts : List PT) : Prop :=
  ∀ s, h = .qfield s → acc = [] → peekT ts ≠ .lparen

def LoopInv (n : Nat) : Prop :=
  ∀ rbp h acc left ts off e a ts' off',
    Parser.loop n rbp h acc left ts off = .ok ((e, a), ts', off') →
    h.Legal → chain rbp h.follow acc → callDevOk h acc → left.strip = ledsAst h.ast acc →
    Stop (ledsFollow h.follow acc) ts → QfOk h acc ts →
    h.toks ++ ledsToks acc ++ tk ts = e.toks ++ tk ts' ∧ e.Legal rbp ∧ Stop rbp ts' ∧
      Stop e.follow ts' ∧ a.strip = e.ast

def NudInv (n : Nat) : Prop :=
  ∀ ts off h a ts' off', Parser.nud n ts off = .ok ((h, a), ts', off') →
    tk ts = h.toks ++ tk ts' ∧ h.Legal ∧ Stop h.follow ts' ∧ a.strip = h.ast ∧ QfOk h [] ts'

def LedInv (n : Nat) : Prop :=
  ∀ left ts off l a ts' off', Parser.led n left ts off = .ok ((l, a), ts', off') →
    tk ts = l.toks ++ tk ts' ∧ l.Legal ∧ Stop l.follow ts' ∧ a.strip = l.ast left.strip ∧
      l.isCallDev = false

def IndexInv (n : Nat) : Prop :=
  ∀ ts off x a ts' off', Parser.parseIndex n ts off = .ok ((x, a), ts', off') →
    match x with
    | .inl i => tk ts = .number i :: .rbracket :: tk ts' ∧ a.strip = .index 0 i
    | .inr (hd, rhs) =>
      tk ts = hd.toks ++ .rbracket :: (rhs.toks ++ tk ts') ∧ rhs.Legal 20 ∧
        Stop (rhs.follow 20) ts' ∧
        a.strip = .projection 0 (.slice 0 hd.a hd.b hd.step) rhs.ast

def ProjRhsInv (n : Nat) : Prop :=
  ∀ k ts off r a ts' off', Parser.projRhs n k ts off = .ok ((r, a), ts', off') →
    tk ts = r.toks ++ tk ts' ∧ r.Legal k ∧ Stop (r.follow k) ts' ∧ a.strip = r.ast

def DotInv (n : Nat) : Prop :=
  ∀ k ts off d a ts' off', Parser.parseDot n k ts off = .ok ((d, a), ts', off') →
    tk ts = d.toks ++ tk ts' ∧ d.Legal k ∧ Stop (d.follow k) ts' ∧ a.strip = d.ast

def MultiListInv (n : Nat) : Prop :=
  ∀ ts off es a ts' off', Parser.multiList n ts off = .ok ((es, a), ts', off') →
    tk ts = argsToks es ++ .rbracket :: tk ts' ∧ es ≠ [] ∧ argsLegal es ∧
      a.strip = .multiList 0 (exprsAst es)

def ListInv (n : Nat) : Prop :=
  ∀ paren ts off es as es' as' ts' off',
    Parser.parseList n paren ts off es as = .ok ((es', as'), ts', off') →
    (es ≠ [] → isClosing paren (peekT ts) = false) →
    ∃ new anew, es' = es ++ new ∧ as' = as ++ anew ∧
      tk ts = argsToks new ++ closeTok paren :: tk ts' ∧ (es ≠ [] → new ≠ []) ∧
      argsLegal new ∧ stripList anew = exprsAst new

def KvpsInv (n : Nat) : Prop :=
  ∀ ts off ks aks ks' aks' ts' off',
    Parser.kvps n ts off ks aks = .ok ((ks', aks'), ts', off') →
    ∃ new anew, ks' = ks ++ new ∧ aks' = aks ++ anew ∧ new ≠ [] ∧
      tk ts = kvsToks new ++ .rbrace :: tk ts' ∧ kvsLegal new ∧ stripKVs anew = kvsAst new

def FilterInv (n : Nat) : Prop :=
  ∀ lhs ts off pe r a ts' off', Parser.parseFilter n lhs ts off = .ok ((pe, r, a), ts', off') →
    tk ts = pe.toks ++ .rbracket :: (r.toks ++ tk ts') ∧ pe.Legal 0 ∧ r.Legal 21 ∧
      Stop (r.follow 21) ts' ∧
      a.strip = .projection 0 lhs.strip (.condition 0 pe.ast r.ast)

def FlattenInv (n : Nat) : Prop :=
  ∀ lhs ts off r a ts' off', Parser.parseFlatten n lhs ts off = .ok ((r, a), ts', off') →
    tk ts = r.toks ++ tk ts' ∧ r.Legal 9 ∧ Stop (r.follow 9) ts' ∧
      a.strip = .projection 0 (.flatten 0 lhs.strip) r.ast

def WVInv (n : Nat) : Prop :=
  ∀ lhs ts off r a ts' off', Parser.wildcardValues n lhs ts off = .ok ((r, a), ts', off') →
    tk ts = r.toks ++ tk ts' ∧ r.Legal 20 ∧ Stop (r.follow 20) ts' ∧
      a.strip = .projection 0 (.objectValues 0 lhs.strip) r.ast

def WIInv (n : Nat) : Prop :=
  ∀ lhs ts off r a ts' off', Parser.wildcardIndex n lhs ts off = .ok ((r, a), ts', off') →
    tk ts = .rbracket :: (r.toks ++ tk ts') ∧ r.Legal 20 ∧ Stop (r.follow 20) ts' ∧
      a.strip = .projection 0 lhs.strip r.ast

structure IH (n : Nat) : Prop where
  expr : ExprInv n
  loop : LoopInv n
  nud : NudInv n
  led : LedInv n
  index : IndexInv n
  projRhs : ProjRhsInv n
  dot : DotInv n
  multiList : MultiListInv n
  list : ListInv n
  kvps : KvpsInv n
  filter : FilterInv n
  flatten : FlattenInv n
  wv : WVInv n
  wi : WIInv n

/-- an expression as right-hand side: it stops below `k` as well -/
theorem IH.exprAt {n : Nat} (ih : IH n) {k ts off e a ts' off'}
    (h : Parser.expr n k ts off = .ok ((e, a), ts', off')) :
    tk ts = e.toks ++ tk ts' ∧ e.Legal k ∧ Stop (min k e.follow) ts' ∧ a.strip = e.ast ∧
      peekT ts = e.first := by
  obtain ⟨h1, h2, h3, h4, h5⟩ := ih.expr _ _ _ _ _ _ _ h
  exact ⟨h1, h2, Nat.le_min.2 ⟨h3, h4⟩, h5, Expr.first_of_yield _ _ _ h1⟩

theorem IH.succ {n : Nat} (ih : IH n) : IH (n + 1) := by
  constructor
  · intro rbp ts off e a ts' off' h
    unfold Parser.expr at h
    split at h
    · simp at h
    · rename_i heq
      obtain ⟨h1, h2, h3, h4, h5⟩ := ih.nud _ _ _ _ _ _ heq
      obtain ⟨g1, g2, g3, g4, g5⟩ := ih.loop _ _ _ _ _ _ _ _ _ _ h h2 (by simp [chain])
        (by simp [callDevOk]) (by simpa [ledsAst] using h4) (by simpa [ledsFollow] using h3) h5
      refine ⟨?_, g2, g3, g4, g5⟩
      rw [h1, ← g1]; simp [ledsToks]
  · intro rbp hd acc left ts off e a ts' off' h hl hc hcd hast hst hqf
    unfold Parser.loop at h
    split at h
    · rename_i hlt
      split at h
      · -- `(`
        rename_i p r
        split at h
        · rename_i o name
          split at h
          · simp at h
          · rename_i args aargs ts1 off1 heq
            obtain ⟨new, anew, e1, e2, g3, g4, g5, g6⟩ :=
              ih.list _ _ _ _ _ _ _ _ _ heq (by simp)
            simp at e1 e2; subst e1 e2
            simp only [Ast.strip] at hast
            obtain ⟨hacc, hh⟩ := ledsAst_field _ _ _ _ hast.symm
            subst hacc
            have hargs : tk ((p, Tok.lparen) :: r) = .lparen :: (argsToks args ++ .rparen :: tk ts1) := by
              simp [g3, closeTok]
            split at h
            · -- head `.field s`: it becomes a call
              rename_i s
              simp only [Nud.ast] at hh
              cases hh
              obtain ⟨k1, k2, k3, k4, k5⟩ := ih.loop _ _ _ _ _ _ _ _ _ _ h
                (by simpa [Nud.Legal] using g5) (by simp [chain]) (by simp [callDevOk])
                (by simp [Ast.strip, ledsAst, Nud.ast, g6])
                (by simp only [ledsFollow, Nud.follow]; exact stop_INF _)
                (by intro s hs; cases hs)
              refine ⟨?_, k2, k3, k4, k5⟩
              rw [← k1, hargs]; simp [ledsToks, Nud.toks]
            · rename_i hnot
              rcases Nud.ast_field _ _ _ hh with rfl | rfl | ⟨e0, rfl, hf⟩
              · exact absurd rfl (hnot _ rfl)
              · exact absurd rfl (hqf _ rfl rfl)
              · obtain ⟨k1, k2, k3, k4, k5⟩ := ih.loop _ _ _ _ _ _ _ _ _ _ h hl
                  (by
                    simp only [List.nil_append, chain, Led.lbp, Led.Legal, Nud.follow, and_true]
                    simp [Tok.lbp] at hlt
                    exact ⟨hlt, by simp [INF], g5⟩)
                  (by simp [callDevOk, Led.isCallDev, hf])
                  (by simp [Ast.strip, ledsAst, Led.ast, hh, g6])
                  (by simp only [List.nil_append, ledsFollow, Led.follow]; exact stop_INF _)
                  (by intro s hs; cases hs)
                refine ⟨?_, k2, k3, k4, k5⟩
                rw [← k1, hargs]; simp [ledsToks, Led.toks]
        · simp at h
      · split at h
        · simp at h
        · rename_i l left' ts1 off1 heq
          obtain ⟨h1, h2, h3, h4, h5⟩ := ih.led _ _ _ _ _ _ _ heq
          have hlbp := Led.lbp_of_yield _ _ _ h1
          obtain ⟨g1, g2, g3, g4, g5⟩ := ih.loop _ _ _ _ _ _ _ _ _ _ h hl
            (by rw [chain_snoc]; simp only [Stop] at hst; exact ⟨hc, by omega, by omega, h2⟩)
            (callDevOk_snoc _ _ _ hcd h5) (by rw [ledsAst_snoc, ← hast]; exact h4)
            (by rw [follow_snoc]; exact h3) (by intro s _ hnil; simp at hnil)
          refine ⟨?_, g2, g3, g4, g5⟩
          rw [← g1, ledsToks_snoc, h1]; simp
    · rename_i hlt
      cases h
      refine ⟨by simp [Expr.toks], by simp only [Expr.Legal]; exact ⟨hl, hc, hcd⟩,
        by simp only [Stop]; omega, by simpa [Expr.follow] using hst,
        by simpa [Expr.ast] using hast⟩
  · intro ts off hd a ts' off' h
    unfold Parser.nud at h
    have qf {x : Nud} (hx : ∀ s, x ≠ .qfield s) : QfOk x [] ts' := fun s hs => absurd hs (hx s)
    split at h
    · cases h
    · split at h
      · cases h; exact ⟨rfl, trivial, stop_INF _, rfl, qf nofun⟩
      · cases h; exact ⟨rfl, trivial, stop_INF _, rfl, qf nofun⟩
      · split at h <;> cases h
        exact ⟨rfl, trivial, stop_INF _, rfl, fun _ _ _ => ‹_›⟩
      · split at h <;> cases h
        obtain ⟨h1, h2, h3, h4⟩ := ih.wv _ _ _ _ _ _ _ ‹_›
        exact ⟨yield_cons h1, h2, h3, h4, qf nofun⟩
      · cases h; exact ⟨rfl, trivial, stop_INF _, rfl, qf nofun⟩
      · -- lbracket
        split at h
        iterate 2
          · split at h <;> cases h
            · obtain ⟨h1, h2⟩ := ih.index _ _ _ _ _ _ ‹_›
              exact ⟨yield_cons h1, trivial, stop_INF _, h2, qf nofun⟩
            · obtain ⟨h1, h2, h3, h4⟩ := ih.index _ _ _ _ _ _ ‹_›
              exact ⟨by simp [Nud.toks, h1], h2, h3, h4, qf nofun⟩
        · split at h <;> cases h
          obtain ⟨h1, h2, h3, h4⟩ := ih.wi _ _ _ _ _ _ _ ‹_›
          exact ⟨yield_cons (yield_cons h1), h2, h3, h4, qf nofun⟩
        · rename_i hns
          split at h <;> cases h
          obtain ⟨h1, h2, h3, h4⟩ := ih.multiList _ _ _ _ _ _ ‹_›
          refine ⟨by simp [Nud.toks, h1], ⟨h2, ?_, h3⟩, stop_INF _, h4, qf nofun⟩
          cases hso : isStarOnly _ with
          | false => rfl
          | true =>
            obtain rfl := isStarOnly_eq _ hso
            obtain ⟨p2, r2, rfl, h1'⟩ := tk_cons_inv h1
            obtain ⟨p3, r3, rfl, _⟩ := tk_cons_inv h1'
            exact absurd rfl (hns _ _ _)
      · split at h <;> cases h
        obtain ⟨h1, h2, h3, h4⟩ := ih.flatten _ _ _ _ _ _ _ ‹_›
        exact ⟨yield_cons h1, h2, h3, h4, qf nofun⟩
      · split at h <;> cases h
        obtain ⟨new, anew, e1, e2, g3, g4, g5, g6⟩ := ih.kvps _ _ _ _ _ _ _ _ ‹_›
        obtain rfl : _ = new := e1
        obtain rfl : _ = anew := e2
        exact ⟨by simp [Nud.toks, g4], ⟨g3, g5⟩, stop_INF _, congrArg (Ast.multiHash 0) g6, qf nofun⟩
      · split at h <;> cases h
        obtain ⟨h1, h2, h3, h4, h5⟩ := ih.expr _ _ _ _ _ _ _ ‹_›
        exact ⟨yield_cons h1, h2, Nat.le_min.2 ⟨h3, h4⟩, congrArg (Ast.expref 0) h5, qf nofun⟩
      · split at h <;> cases h
        obtain ⟨h1, h2, h3, h4, h5⟩ := ih.expr _ _ _ _ _ _ _ ‹_›
        exact ⟨yield_cons h1, h2, Nat.le_min.2 ⟨h3, h4⟩, congrArg (Ast.not 0) h5, qf nofun⟩
      · split at h <;> cases h
        obtain ⟨h1, h2, h3, h4, h5⟩ := ih.filter _ _ _ _ _ _ _ _ ‹_›
        exact ⟨by simp [Nud.toks, h1], ⟨h2, h3⟩, h4, h5, qf nofun⟩
      · split at h
        · cases h
        · obtain ⟨h1, h2, h3, h4, h5⟩ := ih.expr _ _ _ _ _ _ _ ‹_›
          split at h <;> cases h
          exact ⟨by simp [Nud.toks, h1], h2, stop_INF _, h5, qf nofun⟩
      · cases h
  · intro left ts off l a ts' off' h
    unfold Parser.led at h
    have hbin {k r p e ra} (heq : Parser.expr n k r p = .ok ((e, ra), ts', off')) :
        tk r = e.toks ++ tk ts' ∧ e.Legal k ∧ Stop (min k e.follow) ts' ∧ ra.strip = e.ast := by
      obtain ⟨h1, h2, h3, h4, h5⟩ := ih.expr _ _ _ _ _ _ _ heq
      exact ⟨h1, h2, Nat.le_min.2 ⟨h3, h4⟩, h5⟩
    split at h
    · cases h
    · split at h
      · -- dot
        split at h
        · split at h <;> cases h
          obtain ⟨h1, h2, h3, h4⟩ := ih.wv _ _ _ _ _ _ _ ‹_›
          exact ⟨yield_cons (yield_cons h1), h2, h3, h4, rfl⟩
        · rename_i hns
          split at h <;> cases h
          obtain ⟨h1, h2, h3, h4⟩ := ih.dot _ _ _ _ _ _ _ ‹_›
          refine ⟨yield_cons h1, ⟨h2, ?_⟩, h3, congrArg (Ast.subexpr 0 _) h4, rfl⟩
          cases hs : DotRhs.startsWithStar _ with
          | false => rfl
          | true =>
            obtain ⟨p2, r2, rfl⟩ := peekT_inv _ _ (DotRhs.first_of_startsWithStar _ _ _ h1 hs) (by simp)
            exact absurd rfl (hns _ _)
      · -- lbracket
        split at h
        iterate 2
          · split at h <;> cases h
            · obtain ⟨h1, h2⟩ := ih.index _ _ _ _ _ _ ‹_›
              exact ⟨yield_cons h1, trivial, stop_INF _, congrArg (Ast.subexpr 0 _) h2, rfl⟩
            · obtain ⟨h1, h2, h3, h4⟩ := ih.index _ _ _ _ _ _ ‹_›
              exact ⟨by simp [Led.toks, h1], h2, h3, congrArg (Ast.subexpr 0 _) h4, rfl⟩
        · split at h <;> cases h
          obtain ⟨h1, h2, h3, h4⟩ := ih.wi _ _ _ _ _ _ _ ‹_›
          exact ⟨yield_cons (yield_cons h1), h2, h3, h4, rfl⟩
        · cases h
      · split at h <;> cases h
        obtain ⟨h1, h2, h3, h5⟩ := hbin ‹_›
        exact ⟨yield_cons h1, h2, h3, congrArg (Ast.or 0 _) h5, rfl⟩
      · split at h <;> cases h
        obtain ⟨h1, h2, h3, h5⟩ := hbin ‹_›
        exact ⟨yield_cons h1, h2, h3, congrArg (Ast.and 0 _) h5, rfl⟩
      · split at h <;> cases h
        obtain ⟨h1, h2, h3, h5⟩ := hbin ‹_›
        exact ⟨yield_cons h1, h2, h3, congrArg (Ast.subexpr 0 _) h5, rfl⟩
      · split at h <;> cases h
        obtain ⟨h1, h2, h3, h4⟩ := ih.flatten _ _ _ _ _ _ _ ‹_›
        exact ⟨yield_cons h1, h2, h3, h4, rfl⟩
      · split at h <;> cases h
        obtain ⟨h1, h2, h3, h4, h5⟩ := ih.filter _ _ _ _ _ _ _ _ ‹_›
        exact ⟨by simp [Led.toks, h1], ⟨h2, h3⟩, h4, h5, rfl⟩
      · -- comparators
        split at h
        · obtain rfl := cmpOfTok_eq _ _ ‹_›
          split at h <;> cases h
          obtain ⟨h1, h2, h3, h5⟩ := hbin ‹_›
          exact ⟨yield_cons h1, h2, h3, congrArg (Ast.comparison 0 _ _) h5, rfl⟩
        · cases h
  · intro ts off x a ts' off' h
    unfold Parser.parseIndex at h
    split at h
    · cases h
    · cases h
      exact ⟨idxLoop_sound _ _ _ _ _ ‹_›, rfl⟩
    · have := idxLoop_sound _ _ _ _ _ ‹_›
      simp only at h
      split at h <;> cases h
      obtain ⟨g1, g2, g3, g4⟩ := ih.projRhs _ _ _ _ _ _ _ ‹_›
      exact ⟨by rw [this, g1]; rfl, g2, g3, congrArg (Ast.projection 0 _) g4⟩
  · intro k ts off r a ts' off' h
    unfold Parser.projRhs at h
    split at h
    · split at h <;> cases h
      obtain ⟨h1, h2, h3, h4⟩ := ih.dot _ _ _ _ _ _ _ ‹_›
      exact ⟨yield_cons h1, h2, h3, h4⟩
    iterate 2
      · split at h <;> cases h
        obtain ⟨h1, h2, h3, h5, hf⟩ := ih.exprAt ‹_›
        exact ⟨h1, ⟨h2, Expr.headIsBracket_of_first _ (by simp [← hf])⟩, h3, h5⟩
    · split at h <;> cases h
      rename_i hlt
      exact ⟨rfl, trivial, Nat.le_of_lt_succ hlt, rfl⟩
  · intro k ts off d a ts' off' h
    unfold Parser.parseDot at h
    split at h
    · split at h <;> cases h
      obtain ⟨h1, h2, h3, h4⟩ := ih.multiList _ _ _ _ _ _ ‹_›
      exact ⟨by simp [DotRhs.toks, h1], ⟨h2, h3⟩, stop_INF _, h4⟩
    iterate 5
      · split at h <;> cases h
        obtain ⟨h1, h2, h3, h5, hf⟩ := ih.exprAt ‹_›
        exact ⟨h1, ⟨h2, Expr.headIsDot_of_first _ (by simp [← hf])⟩, h3, h5⟩
    · cases h
  · intro ts off es a ts' off' h
    unfold Parser.multiList at h
    split at h
    · cases h
    · obtain ⟨new, anew, rfl, rfl, h3, _, h5, h6⟩ := ih.list _ _ _ _ _ _ _ _ _ ‹_› nofun
      split at h
      · cases h
      · rename_i hne
        cases h
        exact ⟨h3, by simpa using hne, h5, congrArg (Ast.multiList 0) h6⟩
  · intro paren ts off es as es' as' ts' off' h hcl
    unfold Parser.parseList at h
    split at h
    · rename_i p t r
      split at h
      · rename_i hc
        cases h
        have : es = [] := by
          cases es with
          | nil => rfl
          | cons x xs =>
            have := hcl (by simp)
            simp [hc] at this
        subst this
        exact ⟨[], [], by simp, by simp, by simp [argsToks, isClosing_eq _ _ hc], by simp,
          by simp [argsLegal], by simp [stripList, exprsAst]⟩
      · split at h
        · simp at h
        · rename_i e a ts2 off2 heq
          obtain ⟨h1, h2, h3, h4, h5⟩ := ih.expr _ _ _ _ _ _ _ heq
          split at h
          · split at h
            · simp at h
            · rename_i hnc
              obtain ⟨new, anew, rfl, rfl, g3, g4, g5, g6⟩ :=
                ih.list _ _ _ _ _ _ _ _ _ h (by intro _; simpa using hnc)
              have hne := g4 (by simp)
              refine ⟨e :: new, a :: anew, by simp, by simp, ?_, by simp,
                by simp [argsLegal, h2, g5], by simp [stripList, exprsAst, h5, g6]⟩
              rw [h1]; simp [argsToks, argsTail_eq _ hne, g3]
          · split at h
            · rename_i hc
              cases h
              refine ⟨[e], [a], rfl, rfl, ?_, by simp, by simp [argsLegal, h2],
                by simp [stripList, exprsAst, h5]⟩
              rw [h1]; simp [argsToks, argsTail, isClosing_eq _ _ hc]
            · simp at h
          · simp at h
    · simp at h
  · intro ts off ks aks ks' aks' ts' off' h
    unfold Parser.kvps at h
    simp only [] at h
    split at h
    · split at h <;> simp at h
    · rename_i q s p r hkey
      have hts : tk ts = keyTok q s :: tk r := by
        split at hkey
        · cases hkey; simp [keyTok]
        · cases hkey; simp [keyTok]
        · simp at hkey
      split at h
      · split at h
        · simp at h
        · rename_i e a ts2 off2 heq
          obtain ⟨h1, h2, h3, h4, h5⟩ := ih.expr _ _ _ _ _ _ _ heq
          split at h
          · cases h
            refine ⟨[(q, s, e)], [(s, a)], rfl, rfl, by simp, ?_, by simp [kvsLegal, h2],
              by simp [stripKVs, kvsAst, h5]⟩
            rw [hts]; simp [kvsToks, kvsTail, h1]
          · obtain ⟨new, anew, rfl, rfl, g3, g4, g5, g6⟩ := ih.kvps _ _ _ _ _ _ _ _ h
            refine ⟨(q, s, e) :: new, (s, a) :: anew, by simp, by simp, by simp, ?_,
              by simp [kvsLegal, h2, g5], by simp [stripKVs, kvsAst, h5, g6]⟩
            rw [hts]; simp [kvsToks, kvsTail_eq _ g3, h1, g4]
          · simp at h
          · simp at h
      · simp at h
  · intro lhs ts off pe r a ts' off' h
    unfold Parser.parseFilter at h
    split at h
    · cases h
    · obtain ⟨h1, h2, _, _, h5⟩ := ih.expr _ _ _ _ _ _ _ ‹_›
      split at h
      · split at h <;> cases h
        obtain ⟨g1, g2, g3, g4⟩ := ih.projRhs _ _ _ _ _ _ _ ‹_›
        exact ⟨by rw [h1, tk_cons, g1], h2, g2, g3, by simp [Ast.strip, h5, g4]⟩
      · cases h
      · cases h
  · intro lhs ts off r a ts' off' h
    unfold Parser.parseFlatten at h
    split at h <;> cases h
    obtain ⟨h1, h2, h3, h4⟩ := ih.projRhs _ _ _ _ _ _ _ ‹_›
    exact ⟨h1, h2, h3, congrArg (Ast.projection 0 _) h4⟩
  · intro lhs ts off r a ts' off' h
    unfold Parser.wildcardValues at h
    split at h <;> cases h
    obtain ⟨h1, h2, h3, h4⟩ := ih.projRhs _ _ _ _ _ _ _ ‹_›
    exact ⟨h1, h2, h3, congrArg (Ast.projection 0 _) h4⟩
  · intro lhs ts off r a ts' off' h
    unfold Parser.wildcardIndex at h
    split at h
    · split at h <;> cases h
      obtain ⟨h1, h2, h3, h4⟩ := ih.projRhs _ _ _ _ _ _ _ ‹_›
      exact ⟨yield_cons h1, h2, h3, congrArg (Ast.projection 0 _) h4⟩
    · cases h
    · cases h

theorem all : ∀ n, IH n
  | 0 => by constructor <;> intro <;> intros <;> simp_all
  | n + 1 => (all n).succ

theorem T1_expr (fuel rbp : Nat) (ts : List PT) (off : Nat) (e : Expr) (a : Ast) (ts' : List PT) (off' : Nat)
    (h : Parser.expr fuel rbp ts off = .ok ((e, a), ts', off')) :
    tk ts = e.toks ++ tk ts' ∧ e.Legal rbp ∧ (Parser.peekT ts').lbp ≤ rbp ∧
    (Parser.peekT ts').lbp ≤ e.follow ∧ a.strip = e.ast :=
  (all fuel).expr rbp ts off e a ts' off' h

theorem T1_parseTokens (ts : List PT) (e : Expr) (a : Ast) (h : parseTokens ts = .ok (e, a)) :
    (tk ts = e.toks ∨ tk ts = e.toks ++ [Tok.eof]) ∧ e.Legal 0 ∧ a.strip = e.ast := by
  unfold parseTokens at h
  split at h
  · simp at h
  · rename_i heq
    obtain ⟨h1, h2, h3, h4, h5⟩ := (all _).expr _ _ _ _ _ _ _ heq
    split at h
    · cases h; exact ⟨Or.inr (by simpa using h1), h2, h5⟩
    · cases h; exact ⟨Or.inl (by simpa using h1), h2, h5⟩
    · simp at h

end JmesVerif

#print axioms JmesVerif.T1_expr
#print axioms JmesVerif.T1_parseTokens
