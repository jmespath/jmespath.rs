import JmesVerif.Model.JsonText
import JmesVerif.Model.JsonPrint
namespace JmesVerif
namespace JsonRT
open JsonText JsonPrint

theorem hexVal_hexDigit : ∀ n, n < 16 → hexVal (hexDigit n) = some n := by decide

theorem hex4_escape (n : Nat) (h : n < 32) (rest : List Char) :
    hex4 ('0' :: '0' :: hexDigit (n / 16) :: hexDigit (n % 16) :: rest) = some (n, rest) := by
  have h1 := hexVal_hexDigit (n / 16) (by omega)
  have h2 := hexVal_hexDigit (n % 16) (by omega)
  have h0 : hexVal '0' = some 0 := by decide
  simp only [hex4, h0, h1, h2]
  congr 2; omega

theorem char_eq_of_toNat {c : Char} {n : Nat} (h : c.toNat = n) : c = Char.ofNat n := by
  rw [← h, Char.ofNat_toNat]

/-- what `escapeChar c` can be: `c` itself; a two-character escape `\e` (`e` no backtick) that the string
parser decodes to `c`; or `\u00XY` for the remaining control characters -/
inductive EscapeShape (c : Char) : List Char → Prop
  | plain : c ≠ '"' → c ≠ '\\' → ¬ c.toNat < 0x20 → EscapeShape c [c]
  | short (e : Char) : e ≠ '`' →
      (∀ fuel r acc, parseStrBody (fuel + 1) ('\\' :: e :: r) acc = parseStrBody fuel r (c :: acc)) →
      EscapeShape c ['\\', e]
  | hex : c.toNat < 0x20 →
      EscapeShape c ['\\', 'u', '0', '0', hexDigit (c.toNat / 16), hexDigit (c.toNat % 16)]

theorem of_ite {α : Type} {P : α → Prop} {p : Prop} [Decidable p] {a b : α} (ha : p → P a) (hb : ¬ p → P b) :
    P (if p then a else b) := by
  by_cases h : p
  · rw [if_pos h]; exact ha h
  · rw [if_neg h]; exact hb h

theorem escapeShape (c : Char) : EscapeShape c (escapeChar c) := by
  have short (e d : Char) (he : e ≠ '`')
      (hp : ∀ fuel r acc, parseStrBody (fuel + 1) ('\\' :: e :: r) acc = parseStrBody fuel r (d :: acc))
      (hd : c = d) : EscapeShape c ['\\', e] := .short e he (hd ▸ hp)
  unfold escapeChar
  -- `split` is slow on conditions with character literals
  exact of_ite (short _ _ (by decide) fun _ _ _ => rfl) fun h1 =>
    of_ite (short _ _ (by decide) fun _ _ _ => rfl) fun h2 =>
    of_ite (short _ _ (by decide) (fun _ _ _ => rfl) ∘ char_eq_of_toNat) fun _ =>
    of_ite (short _ _ (by decide) (fun _ _ _ => rfl) ∘ char_eq_of_toNat) fun _ =>
    of_ite (short _ _ (by decide) fun _ _ _ => rfl) fun _ =>
    of_ite (short _ _ (by decide) fun _ _ _ => rfl) fun _ =>
    of_ite (short _ _ (by decide) fun _ _ _ => rfl) fun _ =>
    of_ite .hex (.plain h1 h2)

theorem parseStrBody_escape (c : Char) (fuel : Nat) (rest acc : List Char) :
    parseStrBody (fuel + 1) (escapeChar c ++ rest) acc = parseStrBody fuel rest (c :: acc) := by
  have h := escapeShape c
  generalize escapeChar c = l at h
  cases h with
  | plain h1 h2 h3 =>
    rw [List.singleton_append, parseStrBody]
    · rw [if_neg h3]
    · exact h1
    · exact h2
  | short e _ hp => exact hp fuel rest acc
  | hex h =>
    simp only [List.cons_append, List.nil_append, parseStrBody]
    rw [hex4_escape _ h]
    simp only
    rw [if_neg (by omega), if_pos (by omega), Char.ofNat_toNat]

theorem length_escapeChar_pos (c : Char) : 1 ≤ (escapeChar c).length := by
  have h := escapeShape c
  generalize escapeChar c = l at h
  cases h <;> exact Nat.succ_pos _

theorem length_le_flatMap_escape (s : List Char) : s.length ≤ (s.flatMap escapeChar).length := by
  induction s with
  | nil => simp
  | cons c s ih =>
    have := length_escapeChar_pos c
    simp only [List.flatMap_cons, List.length_append, List.length_cons]; omega

/-- the escaped text of `s`, closed by a quote, decodes to `s` -/
theorem parseStrBody_flatMap (s : List Char) : ∀ (fuel : Nat) (rest acc : List Char), s.length + 1 ≤ fuel →
    parseStrBody fuel (s.flatMap escapeChar ++ '"' :: rest) acc = some (acc.reverse ++ s, rest) := by
  induction s with
  | nil =>
    intro fuel rest acc h
    obtain ⟨f, rfl⟩ : ∃ f, fuel = f + 1 := ⟨fuel - 1, by omega⟩
    simp [parseStrBody]
  | cons c s ih =>
    intro fuel rest acc h
    obtain ⟨f, rfl⟩ : ∃ f, fuel = f + 1 := ⟨fuel - 1, by omega⟩
    simp only [List.flatMap_cons, List.append_assoc]
    rw [parseStrBody_escape, ih f rest (c :: acc) (by simp at h; omega)]
    simp

/-- the text of `quote s` after its opening quote, as `parseValue`/`parseMembers` call it -/
theorem parseStrBody_quote (s : String) (rest : List Char) :
    parseStrBody ((s.toList.flatMap escapeChar ++ '"' :: rest).length + 1)
      (s.toList.flatMap escapeChar ++ '"' :: rest) [] = some (s.toList, rest) := by
  rw [parseStrBody_flatMap]
  · simp
  · have := length_le_flatMap_escape s.toList
    simp only [List.length_append, List.length_cons]; omega

theorem toList_quote (s : String) : (quote s).toList = '"' :: (s.toList.flatMap escapeChar ++ ['"']) := by
  simp [quote]

end JsonRT
end JmesVerif
