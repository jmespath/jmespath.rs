/-! Two facts about fuel-indexed functions: a result other than "out of fuel" survives more fuel; enough fuel is a successor. -/
namespace JmesVerif

theorem mono_iter {α : Type} (f : Nat → α) (bad : α) (step : ∀ n, f n ≠ bad → f (n+1) = f n)
    (n : Nat) (r : α) (h : f n = r) (hr : r ≠ bad) : ∀ m, n ≤ m → f m = r := by
  intro m hm
  induction m with
  | zero => have : n = 0 := by omega
            subst this; exact h
  | succ m ih =>
    by_cases hnm : n = m + 1
    · subst hnm; exact h
    · have := ih (by omega)
      rw [step m (by rw [this]; exact hr), this]

theorem fuel_succ {n fuel : Nat} (h : n + 1 ≤ fuel) : ∃ k, fuel = k + 1 ∧ n ≤ k :=
  ⟨fuel - 1, by omega, by omega⟩

end JmesVerif
